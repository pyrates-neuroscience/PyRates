import Mathlib.Analysis.Calculus.Deriv.Pow
import Mathlib.Analysis.Calculus.Deriv.Mul
import Mathlib.Analysis.Calculus.Deriv.Add
import Mathlib.Analysis.Calculus.Deriv.Comp
import PyRatesModel.Net.Jac
/-!
Soundness of the formal derivative `Net.D` (C12), over the reals, with Mathlib's calculus library.
This file and `Props/C12.lean` are the only ones that import Mathlib.
-/
namespace PyRates.Net
open Function

/-- real-valued evaluation; `I f` interprets the unary named function `f`, binary named functions are not covered here -/
noncomputable def evalR (I : String → ℝ → ℝ) (ρ : String → ℝ) : Expr → ℝ
  | .num q => ((q : ℚ) : ℝ)
  | .var x => ρ x
  | .add a b => evalR I ρ a + evalR I ρ b
  | .sub a b => evalR I ρ a - evalR I ρ b
  | .mul a b => evalR I ρ a * evalR I ρ b
  | .neg a => - evalR I ρ a
  | .pow a k => (evalR I ρ a) ^ k
  | .call1 f a => I f (evalR I ρ a)
  | .call2 _ _ _ => 0

/-- expressions without binary named functions -/
def Unary : Expr → Prop
  | .num _ | .var _ => True
  | .add a b | .sub a b | .mul a b => Unary a ∧ Unary b
  | .neg a | .pow a _ | .call1 _ a => Unary a
  | .call2 _ _ _ => False

/-- **The formal derivative is the derivative.**  For every expression without binary named functions, every environment and every
variable `x`: the map `v ↦ ⟦e⟧(ρ[x ↦ v])` has derivative `⟦D x e⟧ρ` at `v = ρ x`, provided the name `f'` denotes the derivative of the
unary named function `f` (that is how `_resolve_derivatives` treats sigmoid/absv and sympy treats exp, sin, …). -/
theorem C12_diff_sound (I : String → ℝ → ℝ) (hI : ∀ f a, HasDerivAt (I f) (I (f ++ "'") a) a)
    (ρ : String → ℝ) (x : String) (e : Expr) (hu : Unary e) :
    HasDerivAt (fun v => evalR I (update ρ x v) e) (evalR I ρ (D x e)) (ρ x) := by
  have hupd : update ρ x (ρ x) = ρ := update_eq_self x ρ
  induction e with
  | num q =>
    rw [D, evalR, Rat.cast_zero]
    exact hasDerivAt_const (ρ x) _
  | var y =>
    by_cases h : y = x
    · subst h
      simp only [evalR, D, beq_self_eq_true, if_true, update_self, Rat.cast_one]
      exact hasDerivAt_id' (ρ y)
    · simp only [evalR, D, beq_eq_false_iff_ne.mpr h, Bool.false_eq_true, if_false, update_of_ne h, Rat.cast_zero]
      exact hasDerivAt_const (ρ x) (ρ y)
  | add a b iha ihb => exact (iha hu.1).fun_add (ihb hu.2)
  | sub a b iha ihb => exact (iha hu.1).fun_sub (ihb hu.2)
  | mul a b iha ihb =>
    have := (iha hu.1).fun_mul (ihb hu.2)
    rwa [hupd] at this
  | neg a ih => exact (ih hu).fun_neg
  | pow a k ih =>
    by_cases hk : k = 0
    · subst hk
      simp only [evalR, D, beq_self_eq_true, if_true, pow_zero, Rat.cast_zero]
      exact hasDerivAt_const (ρ x) (1 : ℝ)
    · have := (ih hu).fun_pow k
      rw [hupd] at this
      simp only [evalR, D, beq_eq_false_iff_ne.mpr hk, Bool.false_eq_true, if_false, Rat.cast_natCast]
      exact this
  | call1 f a ih =>
    have h1 : HasDerivAt (I f) (I (f ++ "'") (evalR I ρ a)) (evalR I (update ρ x (ρ x)) a) := by
      rw [hupd]
      exact hI f _
    exact HasDerivAt.comp (ρ x) h1 (ih hu)
  | call2 f a b _ _ => exact hu.elim

end PyRates.Net
