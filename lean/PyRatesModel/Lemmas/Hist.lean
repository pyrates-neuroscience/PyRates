import PyRatesModel.Hist.DDEHistory
/-! Strictly increasing time lists (`StrictSorted` is `Pairwise (· < ·)`), `bisect_right` on them, and the buffer operations of
`DDEHistory` row by row (C19, C10, C08, C02). -/
namespace PyRates.Hist

def StrictSorted : List Rat → Prop
  | [] => True
  | [_] => True
  | a :: b :: rest => a < b ∧ StrictSorted (b :: rest)

theorem strictSorted_iff (ts : List Rat) : StrictSorted ts ↔ ts.Pairwise (· < ·) := by
  induction ts with
  | nil => simp [StrictSorted]
  | cons a rest ih =>
    cases rest with
    | nil => simp [StrictSorted]
    | cons b r =>
      rw [StrictSorted, ih, List.pairwise_cons (a := a)]
      refine and_congr_left fun hp => ⟨fun hab x hx => ?_, fun ha => ha b List.mem_cons_self⟩
      rcases List.mem_cons.mp hx with rfl | hx
      · exact hab
      · exact Std.lt_trans hab ((List.pairwise_cons.mp hp).1 x hx)

theorem sorted_head_lt (a : Rat) (ts : List Rat) (h : StrictSorted (a :: ts)) : ∀ x ∈ ts, a < x :=
  (List.pairwise_cons.mp ((strictSorted_iff _).mp h)).1

theorem sorted_tail {a : Rat} {ts : List Rat} (h : StrictSorted (a :: ts)) : StrictSorted ts :=
  (strictSorted_iff _).mpr (List.pairwise_cons.mp ((strictSorted_iff _).mp h)).2

theorem sorted_get_lt (ts : List Rat) (hs : StrictSorted ts) (i j : Nat) (hij : i < j) (hj : j < ts.length) :
    ts[i]'(by omega) < ts[j] :=
  List.pairwise_iff_getElem.mp ((strictSorted_iff ts).mp hs) i j _ hj hij

/-- if ts[i] ≤ t < ts[i+1] in a strictly sorted list then bisect_right returns i+1 -/
theorem bisect_spec (ts : List Rat) (t : Rat) (i : Nat) (hs : StrictSorted ts)
    (hi : i + 1 < ts.length) (h1 : ts[i]'(by omega) ≤ t) (h2 : t < ts[i+1]) :
    bisectRight ts t = i + 1 := by
  induction ts generalizing i with
  | nil => simp at hi
  | cons a rest ih =>
    cases i with
    | zero =>
      obtain ⟨b, r2, rfl⟩ := List.exists_cons_of_length_pos (Nat.lt_of_succ_lt_succ hi)
      simp [bisectRight, List.takeWhile, show a ≤ t from h1, Rat.not_le.mpr (show t < b from h2)]
    | succ j =>
      have hat : a ≤ t := Rat.le_trans (Rat.le_of_lt (sorted_head_lt a rest hs _ (List.getElem_mem _))) h1
      have := ih j (sorted_tail hs) (Nat.lt_of_succ_lt_succ hi) h1 h2
      simpa [bisectRight, List.takeWhile, hat] using this

theorem sorted_append (ts : List Rat) (t : Rat) (hs : StrictSorted ts)
    (hl : ∀ x ∈ ts.getLast?, x < t) : StrictSorted (ts ++ [t]) := by
  induction ts with
  | nil => trivial
  | cons a rest ih =>
    cases rest with
    | nil => simp [StrictSorted] at hl ⊢; exact hl
    | cons b rest2 =>
      simp only [List.cons_append, StrictSorted] at hs ⊢
      refine ⟨hs.1, ?_⟩
      apply ih hs.2
      intro x hx
      apply hl
      simpa [List.getLast?_cons_cons] using hx

/-! ### `update`, `writeRow`, `grow` row by row -/

theorem update_cases (h h' : Hist) (t : Rat) (y : Vec) (gf : Nat) (hu : h.update t y gf = .ok h') :
    (h.n < h.rows.length ∧ h' = h.writeRow t y) ∨
    (h.rows.length ≤ h.n ∧ h.growable = true ∧ h' = (h.grow gf).writeRow t y) := by
  unfold Hist.update at hu
  split at hu
  · next hfull =>
    split at hu
    · next hgrow => exact .inr ⟨hfull, hgrow, (Except.ok.inj hu).symm⟩
    · cases hu
  · exact .inl ⟨by omega, (Except.ok.inj hu).symm⟩

theorem writeRow_rows (h : Hist) (t : Rat) (y : Vec) (j : Nat) (hcap : h.n < h.rows.length) :
    (h.writeRow t y).rows[j]? = if j = h.n then some (some y) else h.rows[j]? := by
  simp only [Hist.writeRow, List.getElem?_set, hcap, if_true, eq_comm]

theorem grow_rows (h : Hist) (gf j : Nat) (hle : h.n ≤ h.rows.length) :
    (h.grow gf).rows[j]? =
      if j < h.n then h.rows[j]? else (List.replicate (h.rows.length * gf - h.n) none)[j - h.n]? := by
  have : (h.rows.take h.n).length = h.n := by simp [hle]
  simp only [Hist.grow, List.getElem?_append, this, List.getElem?_take]
  split <;> simp [*]

end PyRates.Hist
