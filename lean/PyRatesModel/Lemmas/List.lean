/-! General facts about lists that core does not have, used by the property files. -/
namespace PyRates

theorem all_iff {α} {l : List α} {p : α → Bool} {q : α → Prop} (h : ∀ a ∈ l, p a = true ↔ q a) :
    l.all p = true ↔ ∀ a ∈ l, q a :=
  List.all_eq_true.trans (forall₂_congr h)

theorem find?_beq_some {α β} [BEq β] [LawfulBEq β] {f : α → β} {b : β} {l : List α} {a : α}
    (h : l.find? (f · == b) = some a) : a ∈ l ∧ f a = b :=
  ⟨List.mem_of_find?_eq_some h, beq_iff_eq.mp (List.find?_some (p := (f · == b)) h)⟩

theorem sum_map_eq_zero {α} (l : List α) (f : α → Rat) (h : ∀ a ∈ l, f a = 0) : (l.map f).sum = 0 := by
  induction l with
  | nil => rfl
  | cons a l ih =>
    rw [List.forall_mem_cons] at h
    rw [List.map_cons, List.sum_cons, h.1, ih h.2, Rat.add_zero]

theorem flatMap_congr {α β} {l : List α} {f g : α → List β} (h : ∀ x ∈ l, f x = g x) : l.flatMap f = l.flatMap g := by
  rw [List.flatMap_def, List.map_congr_left h, List.flatMap_def]

theorem flatMap_ite_none {α β κ} [BEq κ] [LawfulBEq κ] {key : α → κ} {f : α → List β} {k : κ} {cs : List α}
    (hk : k ∉ cs.map key) : cs.flatMap (fun c => if k == key c then f c else []) = [] := by
  rw [List.flatMap_eq_nil_iff]
  intro c hc
  exact if_neg fun e => hk (List.mem_map.mpr ⟨c, hc, (eq_of_beq e).symm⟩)

theorem flatMap_ite_single {α β κ} [BEq κ] [LawfulBEq κ] {key : α → κ} (f : α → List β) {cs : List α}
    (hnd : (cs.map key).Nodup) {c : α} (hc : c ∈ cs) : cs.flatMap (fun c' => if key c == key c' then f c' else []) = f c := by
  induction cs with
  | nil => cases hc
  | cons a r ih =>
    rw [List.map_cons, List.nodup_cons] at hnd
    rw [List.flatMap_cons]
    rcases List.mem_cons.mp hc with rfl | hr
    · rw [flatMap_ite_none hnd.1]
      simp
    · have hne : ¬ (key c == key a) = true := fun e => hnd.1 (eq_of_beq e ▸ List.mem_map_of_mem hr)
      rw [if_neg hne, ih hnd.2 hr]
      rfl

theorem foldl_dedup_of_mem {α} [BEq α] [LawfulBEq α] (l acc : List α) (h : ∀ x ∈ l, x ∈ acc) :
    l.foldl (fun acc x => if acc.contains x then acc else acc ++ [x]) acc = acc := by
  induction l with
  | nil => rfl
  | cons a l ih =>
    rw [List.foldl_cons, if_pos (List.contains_iff_mem.mpr (h a List.mem_cons_self))]
    exact ih fun x hx => h x (List.mem_cons_of_mem a hx)

theorem flatMap_append_perm {α β} (l : List α) (f g : α → List β) :
    (l.flatMap fun a => f a ++ g a).Perm (l.flatMap f ++ l.flatMap g) := by
  induction l with
  | nil => exact .refl _
  | cons a l ih =>
    simp only [List.flatMap_cons, List.append_assoc]
    exact ((ih.append_left _).trans (List.perm_append_comm_assoc ..)).append_left _

theorem flatMap_comm_perm {α β γ} (l₁ : List α) (l₂ : List β) (f : α → β → List γ) :
    (l₁.flatMap fun a => l₂.flatMap (f a)).Perm (l₂.flatMap fun b => l₁.flatMap (f · b)) := by
  induction l₁ with
  | nil => simp
  | cons a l ih =>
    simp only [List.flatMap_cons]
    exact (ih.append_left _).trans (flatMap_append_perm ..).symm

theorem getElem?_append_pred {α} {l : List α} (r : List α) (h : l ≠ []) : (l ++ r)[l.length - 1]? = l.getLast? := by
  rw [List.getElem?_append_left (Nat.sub_lt (List.length_pos_iff.mpr h) Nat.one_pos), List.getLast?_eq_getElem?]

end PyRates
