import PyRatesModel.Str.Replace
import PyRatesModel.Lemmas.List
/-! Helper lemmas for the `replace` refinement (C15). -/
namespace PyRates.Str

theorem pre_nil (s : S) : pre [] s = true := rfl

theorem pre_append (t r : S) : pre t (t ++ r) = true := by
  induction t <;> simp [pre, *]

/-- a prefix match splits the string -/
theorem pre_split (t s : S) (h : pre t s = true) : s = t ++ s.drop t.length := by
  fun_induction pre t s with
  | case1 => rfl
  | case2 => cases h
  | case3 a t b s ih =>
    obtain ⟨rfl, hp⟩ : a = b ∧ pre t s = true := by simpa using h
    exact congrArg _ (ih hp)

/-- what `find` returns: the string splits at the first occurrence -/
theorem find_some (t s : S) (i : Nat) (h : find t s = some i) :
    ∃ p rest, s = p ++ (t ++ rest) ∧ p.length = i ∧ ∀ j < i, pre t (s.drop j) = false := by
  fun_induction find t s generalizing i with
  | case1 hp => cases h; exact ⟨[], _, pre_split t _ hp, rfl, nofun⟩
  | case2 hp => cases h
  | case3 c r hp => cases h; exact ⟨[], _, pre_split t _ hp, rfl, nofun⟩
  | case4 c r hp ih =>
    obtain ⟨k, hk, rfl⟩ := Option.map_eq_some_iff.mp h
    obtain ⟨p, rest, rfl, rfl, hno⟩ := ih k hk
    refine ⟨c :: p, rest, rfl, rfl, fun j hj => ?_⟩
    cases j with
    | zero => simpa using hp
    | succ j => simpa using hno j (by simpa using hj)

theorem find_none (t s : S) (h : find t s = none) (j : Nat) : pre t (s.drop j) = false := by
  fun_induction find t s generalizing j with
  | case1 hp => cases h
  | case2 hp => simpa using hp
  | case3 c r hp => cases h
  | case4 c r hp ih =>
    cases j with
    | zero => simpa using hp
    | succ j => simpa using ih (by simpa using h) j

variable (A term repl : S)

/-- one iteration of the loop on a string split at its first occurrence of `term` -/
theorem replaceLoop_occurrence (hterm : term ≠ []) (fuel : Nat) (prev : Option Char) (p rest acc : S)
    (hf : find term (p ++ (term ++ rest)) = some p.length) :
    replaceLoop A term repl (fuel + 1) prev (p ++ (term ++ rest)) acc =
      replaceLoop A term repl fuel term.getLast? rest
        (acc ++ p ++ if sepOk A (p.getLast?.or prev) && sepOk A rest.head? then repl else term) := by
  have hlast : (p ++ (term ++ rest))[p.length + term.length - 1]? = term.getLast? := by
    rw [Nat.add_sub_assoc (List.length_pos_iff.mpr hterm), List.getElem?_append_right (Nat.le_add_right ..),
      Nat.add_sub_cancel_left, getElem?_append_pred _ hterm]
  have hbefore : (if p.length > 0 then (p ++ (term ++ rest))[p.length - 1]? else prev) = p.getLast?.or prev := by
    cases p with
    | nil => rfl
    | cons c p =>
      rw [getElem?_append_pred _ (List.cons_ne_nil c p), List.getLast?_cons]
      rfl
  have hnext : (p ++ (term ++ rest))[p.length + term.length]? = rest.head? := by
    rw [← List.head?_drop, List.drop_length_add_append, List.drop_left]
  simp only [replaceLoop, hf, hlast, hbefore, hnext, List.take_left, List.take_length_add_append,
    List.drop_length_add_append, List.drop_left]
  split <;> simp

/-- after a replaced occurrence, the rest of it is skipped -/
theorem spec_skip (run rest : S) :
    spec A term repl run.length false (run ++ rest) = spec A term repl 0 false rest := by
  induction run with
  | nil => rfl
  | cons c run ih => exact ih

/-- with a non-separator before it, a run of non-separator characters is copied -/
theorem spec_copy_run (run rest : S) (hrun : ∀ c ∈ run, A.contains c = false) :
    spec A term repl 0 false (run ++ rest) = run ++ spec A term repl 0 false rest := by
  induction run with
  | nil => rfl
  | cons c run ih =>
    rw [List.forall_mem_cons] at hrun
    simp only [List.cons_append, spec, hrun.1, ih hrun.2, Bool.false_and, Bool.false_eq_true, if_false]

/-- at an occurrence of `term`: replaced iff delimited on both sides, and the specification goes on behind it -/
theorem spec_occurrence (hterm : term ≠ []) (hsep : ∀ c ∈ term, A.contains c = false) (b : Bool) (rest : S) :
    spec A term repl 0 b (term ++ rest) =
      (if b && sepOk A rest.head? then repl else term) ++ spec A term repl 0 false rest := by
  cases term with
  | nil => contradiction
  | cons c t =>
    rw [List.forall_mem_cons] at hsep
    rw [List.cons_append, spec, ← List.cons_append, pre_append, ← List.head?_drop, List.drop_left, Bool.and_true]
    split
    · exact congrArg _ (spec_skip A _ repl t rest)
    · rw [hsep.1, spec_copy_run A _ repl t rest hsep.2]; rfl

/-- if no occurrence of `term` starts inside `p`, then `p` is copied, and the flag behind it is that of the last character seen -/
theorem spec_copy_prefix (prev : Option Char) (p s : S)
    (hno : ∀ j < p.length, pre term ((p ++ s).drop j) = false) :
    spec A term repl 0 (sepOk A prev) (p ++ s) = p ++ spec A term repl 0 (sepOk A (p.getLast?.or prev)) s := by
  induction p generalizing prev with
  | nil => rfl
  | cons c p ih =>
    have h0 : pre term (c :: (p ++ s)) = false := hno 0 (by simp)
    simp only [List.cons_append, spec, h0, Bool.and_false, Bool.false_and, Bool.false_eq_true, if_false,
      List.getLast?_cons, Option.some_or]
    -- `List.getLast?_cons` leaves `some (p.getLast?.getD c)`; turn it back into `p.getLast?.or (some c)` for the hypothesis
    rw [← Option.or_some]
    exact congrArg _ (ih (some c) fun j hj => hno (j + 1) (by simpa using hj))

theorem spec_absent (prev : Option Char) (s : S) (hno : ∀ j, pre term (s.drop j) = false) :
    spec A term repl 0 (sepOk A prev) s = s := by
  simpa [spec] using spec_copy_prefix A term repl prev s [] (by simpa using fun j _ => hno j)

end PyRates.Str
