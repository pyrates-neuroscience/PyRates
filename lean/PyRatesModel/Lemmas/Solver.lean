import PyRatesModel.Solver.Fixed
/-! `iter` arithmetic, the invariant of the storage loop (`loop_rows`) with what `solve` returns (`solve_rows`), and the scan scheme (C03, C08). -/
namespace PyRates.Solver

theorem iter_succ_left (step : Nat → Vec → Vec) (i k : Nat) (y : Vec) :
    iter step i (k+1) y = iter step (i+1) k (step i y) := rfl

theorem iter_add (step : Nat → Vec → Vec) (i a b : Nat) (y : Vec) :
    iter step i (a + b) y = iter step (i + a) b (iter step i a y) := by
  induction a generalizing i y with
  | zero => simp [iter]
  | succ a ih =>
    rw [show a + 1 + b = (a + b) + 1 by omega, iter_succ_left, ih, iter_succ_left]
    congr 1; omega

theorem iter_succ_right (step : Nat → Vec → Vec) (k : Nat) (y : Vec) :
    iter step 0 (k + 1) y = step k (iter step 0 k y) := by
  rw [iter_add, Nat.zero_add]; rfl

theorem mod_zero_iff (i s idx : Nat) (hs : 0 < s) (h1 : i ≤ idx * s) (h2 : idx * s < i + s) :
    i % s = 0 ↔ idx * s = i := by
  constructor
  · intro hm
    obtain ⟨q, rfl⟩ := Nat.dvd_of_mod_eq_zero hm
    rw [Nat.mul_comm s q] at h1 h2 ⊢
    have a : q ≤ idx := Nat.le_of_mul_le_mul_right h1 hs
    have b : idx < q + 1 := Nat.lt_of_mul_lt_mul_right (a := s) (by rw [Nat.add_mul]; omega)
    rw [show idx = q by omega]
  · intro h; rw [← h]; exact Nat.mul_mod_left _ _

theorem loop_full (step : Nat → Vec → Vec) (s : Nat) (hs : 0 < s) (n i : Nat) (y : Vec) (idx : Nat) (rec : List (Option Vec))
    (h : rec.length ≤ idx) : loop true step s n i y idx rec = .ok rec := by
  induction n generalizing i y with
  | zero => rfl
  | succ n ih =>
    unfold loop
    simp only [show s ≠ 0 by omega, show ¬ idx < rec.length by omega, if_false, if_true, ih, ite_self]

/-- what the finished loop leaves in row `k` when `idx` rows had been written before: rows from `idx` on hold the iterate of their
sampling instant `k * s` if the integration (`stop` steps) reaches it -/
def rowsFrom (step : Nat → Vec → Vec) (s stop : Nat) (y0 : Vec) (idx : Nat) (rec : List (Option Vec)) : List (Option Vec) :=
  rec.mapIdx fun k r => if idx ≤ k ∧ k * s < stop then some (iter step 0 (k * s) y0) else r

theorem rowsFrom_self {step : Nat → Vec → Vec} {s stop : Nat} {y0 : Vec} {idx : Nat} {rec : List (Option Vec)}
    (h : ∀ k, idx ≤ k → k < rec.length → stop ≤ k * s) : rowsFrom step s stop y0 idx rec = rec := by
  rw [rowsFrom, List.mapIdx_eq_iff]
  intro k
  cases hk : rec[k]? with
  | none => rfl
  | some r =>
    have hlen := (List.getElem?_eq_some_iff.mp hk).1
    rw [Option.map_some, if_neg (fun ⟨a, b⟩ => Nat.not_le_of_gt b (h k a hlen))]

theorem rowsFrom_write {step : Nat → Vec → Vec} {s stop : Nat} {y0 : Vec} {idx : Nat} {rec : List (Option Vec)}
    (hidx : idx < rec.length) (hlt : idx * s < stop) :
    rowsFrom step s stop y0 (idx + 1) (rec.set idx (some (iter step 0 (idx * s) y0))) = rowsFrom step s stop y0 idx rec := by
  symm
  rw [rowsFrom, rowsFrom, List.mapIdx_eq_iff]
  intro k
  rw [List.getElem?_mapIdx, List.getElem?_set]
  by_cases hk : idx = k
  · subst hk
    simp [hidx, hlt]
  · rw [if_neg hk]
    cases rec[k]? with
    | none => rfl
    | some r =>
      have : idx + 1 ≤ k ↔ idx ≤ k := by omega
      simp only [Option.map_some, this]

/-- The storage loop from any state it passes through: the counter is `i`, the state the `i`-th iterate, `idx` rows have been written and the
next one is due at counter `idx * s`.  Without the guard no sampling instant may fall outside the record. -/
theorem loop_rows (g : Bool) (step : Nat → Vec → Vec) (s : Nat) (hs : 0 < s) (y0 : Vec) (stop n i idx : Nat)
    (rec : List (Option Vec)) (hn : i + n = stop) (h1 : i ≤ idx * s) (h2 : idx * s < i + s)
    (hg : g = true ∨ stop ≤ rec.length * s) :
    loop g step s n i (iter step 0 i y0) idx rec = .ok (rowsFrom step s stop y0 idx rec) := by
  induction n generalizing i idx rec with
  | zero =>
    rw [rowsFrom_self fun k hk _ => by have := Nat.mul_le_mul_right s hk; omega]
    rfl
  | succ n ih =>
    have hsucc : (idx + 1) * s = idx * s + s := Nat.succ_mul idx s      -- for the `omega` calls: they take products as atoms
    unfold loop
    rw [if_neg (Nat.ne_of_gt hs), ← iter_succ_right step i y0]
    by_cases hmod : i % s = 0
    · obtain rfl := (mod_zero_iff i s idx hs h1 h2).mp hmod
      rw [if_pos hmod]
      by_cases hidx : idx < rec.length
      · rw [if_pos hidx, ih _ (idx + 1) _ (by omega) (by omega) (by omega) (by simpa using hg),
          rowsFrom_write hidx (by omega)]
      · have hgt : g = true := hg.resolve_right (fun h => by
          have := Nat.mul_le_mul_right s (Nat.le_of_not_lt hidx); omega)
        rw [if_neg hidx, hgt, if_pos rfl, loop_full step s hs n _ _ idx rec (by omega), rowsFrom_self]
        intro k hk hl; omega
    · have hne : idx * s ≠ i := fun h => hmod ((mod_zero_iff i s idx hs h1 h2).mpr h)
      rw [if_neg hmod, ih (i + 1) idx rec (by omega) (by omega) (by omega) hg]

/-- **Rows of the storage loop**, for either form of the storage condition: row `k` holds the state after `k * s` steps if the integration
reaches that instant and is left unwritten otherwise - provided the condition is guarded or no sampling instant falls outside the record. -/
theorem solve_rows (g : Bool) (step : Nat → Vec → Vec) (steps m s : Nat) (hs : 0 < s) (y0 : Vec)
    (hg : g = true ∨ steps ≤ m * s) :
    solve g step steps m s y0
      = .ok ((List.range m).map (fun k => if k * s < steps then some (iter step 0 (k * s) y0) else none)) := by
  refine (loop_rows g step s hs y0 steps steps 0 0 (List.replicate m none) (Nat.zero_add _) (by omega) (by omega)
    (by simpa using hg)).trans (congrArg _ ?_)
  rw [rowsFrom, List.mapIdx_eq_iff]
  intro k
  by_cases hk : k < m <;> simp [hk]

theorem solve_rows_full (g : Bool) (step : Nat → Vec → Vec) (steps m s : Nat) (hs : 0 < s) (y0 : Vec)
    (hg : g = true ∨ steps ≤ m * s) (h : ∀ k, k < m → k * s < steps) :
    solve g step steps m s y0 = .ok ((List.range m).map (fun k => some (iter step 0 (k * s) y0))) := by
  rw [solve_rows g step steps m s hs y0 hg]
  exact congrArg _ (List.map_congr_left fun k hk => if_pos (h k (List.mem_range.mp hk)))

theorem scanOuter_spec (step : Nat → Vec → Vec) (s : Nat) (y0 : Vec) (n j : Nat) :
    scanOuter step s n (j * s) (iter step 0 (j * s) y0) = (List.range n).map (fun k => iter step 0 ((j + k) * s) y0) := by
  induction n generalizing j with
  | zero => rfl
  | succ n ih =>
    have h : iter step (j * s) s (iter step 0 (j * s) y0) = iter step 0 ((j + 1) * s) y0 := by
      rw [Nat.succ_mul, iter_add, Nat.zero_add]
    rw [scanOuter, h, ← Nat.succ_mul, ih (j + 1), List.range_succ_eq_map, List.map_cons, List.map_map]
    exact congrArg _ (List.map_congr_left fun k _ => by rw [Nat.add_right_comm]; rfl)

theorem pyRound_int (n : Int) : pyRound (n : Rat) = n := by
  unfold pyRound
  simp only [Rat.floor_intCast, Rat.sub_self]
  exact if_pos (by decide +kernel)

theorem pyRound_nat (n : Nat) : (pyRound (n : Rat)).toNat = n := by
  rw [← Rat.intCast_natCast, pyRound_int]
  rfl

end PyRates.Solver
