import PyRatesModel.Net.Eval
import PyRatesModel.Lemmas.List
/-!
# C01 — the generated vector field equals the model the user wrote

Specification: `Net.IsSolution` (Net/Syntax.lean).  Executable model: `Net.solve` (Net/Eval.lean), whose every answer is
validated by `checkSolution`; `C01_valOf_unique` shows that the value the evaluator resolves for a variable is its value in *every*
solution (uniqueness wherever resolution succeeds).  The staged compiler itself (edge grouping, weight matrix, labels, ordering of
updates) is not modelled step by step, it is tied end to end only; the weight matrix is C04's subject, label generation C05's.
-/
namespace PyRates.Net

/-- The checker decides the specification. -/
theorem C01_check_iff (I : Interp) (c : Circuit) (ext : Path → List Rat) (σ ρ : Path → Rat) :
    checkSolution I c ext σ ρ = true ↔ IsSolution I c ext σ ρ := by
  refine all_iff fun n _ => all_iff fun o _ => all_iff fun d _ => ?_
  cases o.kindOf d with
  | state | const | input => exact beq_iff_eq
  | alg =>
    cases o.defEq d.name with
    | none => simp
    | some e => simp

/-- **Soundness of the executable model.**  Whatever `solve` returns is a solution of the user's equations in the sense of
the specification, and the reported derivative of every state variable is its own equation evaluated under that solution. -/
theorem C01_solve_sound (I : Interp) (c : Circuit) (ext : Path → List Rat) (σ : Path → Rat) (fuel : Nat)
    (tbl ds : List (Path × Rat)) (h : solve I c ext σ fuel = some (tbl, ds)) :
    IsSolution I c ext σ (tableLookup tbl) ∧
    ds = c.stateEqs.map (fun (p, n, o, e) => (p, deriv I (tableLookup tbl) n o e)) := by
  obtain ⟨tbl', _, h2⟩ := Option.bind_eq_some_iff.mp h
  dsimp only at h2
  split at h2
  · next hcheck =>
    cases h2
    exact ⟨(C01_check_iff I c ext σ _).mp hcheck, rfl⟩
  · cases h2

/-! ## uniqueness -/

/-- partial evaluation agrees with total evaluation in every environment that extends the partial one -/
theorem evalOpt_eval (I : Interp) (ρo : String → Option Rat) (ρ : String → Rat) (h : ∀ x w, ρo x = some w → ρ x = w)
    (e : Expr) (v : Rat) (hv : evalOpt I ρo e = some v) : eval I ρ e = v := by
  induction e generalizing v with
  | num q => exact Option.some.inj hv
  | var x => exact h x v hv
  | add a b iha ihb | sub a b iha ihb | mul a b iha ihb | call2 f a b iha ihb =>
    obtain ⟨va, ha, hv⟩ := Option.bind_eq_some_iff.mp hv
    obtain ⟨vb, hb, hv⟩ := Option.bind_eq_some_iff.mp hv
    cases hv
    simp only [eval, iha va ha, ihb vb hb]
  | neg a ih | pow a k ih | call1 f a ih =>
    obtain ⟨va, ha, hv⟩ := Option.bind_eq_some_iff.mp hv
    cases hv
    simp only [eval, ih va ha]

/-- `acc` ranges over `Option Rat` so that the induction hypothesis also covers a fold that has already failed -/
theorem foldl_sumOpt {α} (l : List α) (f : α → Option Rat) (g : α → Rat) (hfg : ∀ a ∈ l, ∀ w, f a = some w → g a = w)
    (acc : Option Rat) (s : Rat)
    (hs : (l.map f).foldl (fun acc x => match acc, x with | some a, some b => some (a + b) | _, _ => none) acc = some s) :
    ∃ a, acc = some a ∧ a + (l.map g).sum = s := by
  induction l generalizing acc with
  | nil => exact ⟨s, hs, Rat.add_zero s⟩
  | cons x r ih =>
    obtain ⟨a', ha', hsum⟩ := ih (fun b hb => hfg b (List.mem_cons_of_mem _ hb)) _ hs
    dsimp only at ha'
    split at ha'
    · next a w hfx =>
      cases ha'
      refine ⟨a, rfl, ?_⟩
      rw [List.map_cons, List.sum_cons, hfg x List.mem_cons_self w hfx, ← Rat.add_assoc]
      exact hsum
    · cases ha'

/-- a successful partial sum is the sum of values that agree with any assignment extending the partial one -/
theorem sumOpt_eq {α} (l : List α) (f : α → Option Rat) (g : α → Rat) (hfg : ∀ a ∈ l, ∀ w, f a = some w → g a = w)
    (s : Rat) (hs : sumOpt (l.map f) = some s) : (l.map g).sum = s := by
  obtain ⟨a, ha, h⟩ := foldl_sumOpt l f g hfg (some 0) s hs
  cases ha
  rwa [Rat.zero_add] at h

/-- **Uniqueness.**  Whatever value the evaluator resolves for a variable is the value of that variable in *every* solution of the
user's equations: where resolution succeeds the specification has exactly one solution. -/
theorem C01_valOf_unique (I : Interp) (c : Circuit) (ext : Path → List Rat) (σ ρ : Path → Rat) (hsol : IsSolution I c ext σ ρ)
    (fuel : Nat) (p : Path) (v : Rat) (hv : valOf I c ext σ fuel p = some v) : ρ p = v := by
  induction fuel generalizing p v with
  | zero => cases hv
  | succ fuel ih =>
    obtain ⟨pn, po, pv⟩ := p
    rw [valOf] at hv
    obtain ⟨n, hn, hv⟩ := Option.bind_eq_some_iff.mp hv
    obtain ⟨o, ho, hv⟩ := Option.bind_eq_some_iff.mp hv
    obtain ⟨d, hd, hk⟩ := Option.bind_eq_some_iff.mp hv
    obtain ⟨hnm, rfl⟩ := find?_beq_some hn
    obtain ⟨hom, rfl⟩ := find?_beq_some ho
    obtain ⟨hdm, rfl⟩ := find?_beq_some hd
    have hs := hsol n hnm o hom d hdm
    cases hkind : o.kindOf d with
    | state | const =>
      simp only [hkind] at hk hs
      exact hs.trans (Option.some.inj hk)
    | alg =>
      simp only [hkind] at hk hs
      obtain ⟨e, he, hev⟩ := Option.bind_eq_some_iff.mp hk
      exact (hs e he).trans (evalOpt_eval I _ _ (fun x w hw => ih _ w hw) e.rhs v hev)
    | input =>
      simp only [hkind, inputValue] at hk hs
      rw [hs]
      split at hk
      · next hnone =>
        rw [if_pos hnone]
        exact Option.some.inj hk
      · next hsome =>
        simp only [Option.bind_eq_bind, Option.bind_eq_some_iff, Option.pure_def, Option.some.injEq] at hk
        obtain ⟨a, ha, b, hb, rfl⟩ := hk
        rw [if_neg hsome, sumOpt_eq _ _ (fun o' : Op => ρ ⟨n.path, o'.name, d.name⟩) (fun o' _ w hw => ih _ w hw) a ha,
          sumOpt_eq _ _ (fun e => e.weight * ρ e.src) (fun e _ w hw => by
            obtain ⟨u, hu, rfl⟩ := Option.map_eq_some_iff.mp hw
            rw [ih _ u hu]) b hb]

end PyRates.Net
