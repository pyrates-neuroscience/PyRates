import PyRatesModel.Backends.Funcs
import PyRatesModel.Generated.Tables
import PyRatesModel.Lemmas.Hist
/-!
# C02 — all backends compute the same function for the same model

What differs between backends is (a) the target syntax and (b) a small table of functions that are not plain library calls.  The
theorems cover (b):
* `C02_finterp_eq_spec`: the Fortran interpolation function (search loop + two-point formula) equals the clamped piecewise-linear
  interpolant - what `np.interp`/`jnp.interp` compute - for every increasing grid, every sample vector and every query, *provided the
  emitted formula starts from sample `n-1`*; which sample the current source uses is a regenerated table (`C02_tables`).
* `C02_finterp_wrong_base`: with the other base point the function is not the interpolant (a concrete witness), so the table entry
  matters.
* `C02_idx_once`: an index variable is shifted by the backend's start index exactly once however often it is rendered, provided
  the membership test and the insertion use the same key (regenerated table).
PARTIAL: syntax generation and all library-backed functions (sigmoid, matvec, sums, roll buffers ...) are tied differentially
(harness/props/c02.py): vector fields, returned arguments and trajectories of the four backends are compared with one another and,
on polynomial models, exactly with the Lean value.
-/
namespace PyRates.Backends
open PyRates.Hist (StrictSorted sorted_tail sorted_head_lt)

theorem lerp1_left (x0 y0 x1 y1 : Rat) : lerp1 x0 y0 x1 y1 x0 = y0 := by
  rw [lerp1, Rat.sub_self, Rat.div_def, Rat.zero_mul, Rat.zero_mul, Rat.add_zero]

theorem interpSpec_of_le {x0 y0 t : Rat} {xs ys : List Rat} (hl : xs.length = ys.length) (h : t ≤ x0) :
    interpSpec (x0 :: xs) (y0 :: ys) t = y0 := by
  cases xs with
  | nil =>
    obtain rfl := List.eq_nil_of_length_eq_zero hl.symm
    rfl
  | cons x xs =>
    obtain ⟨y, ys, rfl⟩ := List.exists_cons_of_length_eq_add_one hl.symm
    exact if_pos h

/-- the scan started at grid point `(px, py)` with `px ≤ t` is the interpolant of the remaining grid -/
theorem fscan_eq_spec (px py : Rat) (xs ys : List Rat) (t : Rat) (hl : xs.length = ys.length) (hs : StrictSorted (px :: xs))
    (hp : px ≤ t) : fscan true px py xs ys t = interpSpec (px :: xs) (py :: ys) t := by
  induction xs generalizing px py ys with
  | nil =>
    obtain rfl := List.eq_nil_of_length_eq_zero hl.symm
    rfl
  | cons x xs ih =>
    obtain ⟨y, ys, rfl⟩ := List.exists_cons_of_length_eq_add_one hl.symm
    rw [fscan, interpSpec]
    by_cases h0 : t ≤ px
    · obtain rfl : t = px := Rat.le_antisymm h0 hp
      rw [if_pos hs.1, if_pos h0]
      exact lerp1_left t py x y
    · rw [if_neg h0]
      -- both sides branch on `t < x` with the same then-branch
      exact ite_congr rfl (fun _ => rfl) fun h1 => ih x y ys (Nat.succ.inj hl) (sorted_tail hs) (Rat.not_lt.mp h1)

theorem getLastD_cons_le (x0 : Rat) (xs : List Rat) (hs : StrictSorted (x0 :: xs)) : x0 ≤ (x0 :: xs).getLastD x0 := by
  rw [List.getLastD_cons]
  rcases List.mem_cons.mp (List.getLastD_mem_cons (l := xs) (a := x0)) with h | h
  · rw [h]
    exact Rat.le_refl
  · exact Rat.le_of_lt (sorted_head_lt x0 xs hs _ h)

/-- beyond the last grid point the interpolant is the last sample -/
theorem spec_after_last (xs ys : List Rat) (x0 y0 : Rat) (t : Rat) (hl : xs.length = ys.length) (hs : StrictSorted (x0 :: xs))
    (ht : (x0 :: xs).getLastD x0 < t) : interpSpec (x0 :: xs) (y0 :: ys) t = (y0 :: ys).getLastD y0 := by
  induction xs generalizing x0 y0 ys with
  | nil =>
    obtain rfl := List.eq_nil_of_length_eq_zero hl.symm
    rfl
  | cons x xs ih =>
    obtain ⟨y, ys, rfl⟩ := List.exists_cons_of_length_eq_add_one hl.symm
    -- dropping the head of a list with two or more elements does not change its last element
    change (x :: xs).getLastD x < t at ht
    have hx : x < t := Std.lt_of_le_of_lt (getLastD_cons_le x xs (sorted_tail hs)) ht
    rw [interpSpec, if_neg (Rat.not_le.mpr (Std.lt_trans hs.1 hx)), if_neg (Rat.not_lt.mpr (Rat.le_of_lt hx))]
    exact ih ys x y (Nat.succ.inj hl) (sorted_tail hs) ht

theorem finterp_eq_spec (xs ys : List Rat) (t : Rat) (hl : xs.length = ys.length) (hs : StrictSorted xs) :
    finterp true xs ys t = interpSpec xs ys t := by
  cases xs with
  | nil =>
    obtain rfl := List.eq_nil_of_length_eq_zero hl.symm
    rfl
  | cons x0 xs =>
    obtain ⟨y0, ys, rfl⟩ := List.exists_cons_of_length_eq_add_one hl.symm
    have hl := Nat.succ.inj hl
    simp only [finterp]
    by_cases ha : t < x0
    · rw [if_pos ha, interpSpec_of_le hl (Rat.le_of_lt ha)]
    by_cases hb : (x0 :: xs).getLastD x0 < t
    · rw [if_neg ha, if_pos hb, spec_after_last xs ys x0 y0 t hl hs hb]
    · rw [if_neg ha, if_neg hb, fscan_eq_spec x0 y0 xs ys t hl hs (Rat.not_lt.mp ha)]

/-- **The Fortran interpolation function is the interpolant** (for the base point `n-1`). -/
theorem C02_finterp_eq_spec (xs ys : List Rat) (t : Rat) (hl : xs.length = ys.length) (h1 : 1 ≤ xs.length) (hs : StrictSorted xs) :
    finterp true xs ys t = interpSpec xs ys t :=
  finterp_eq_spec xs ys t hl hs

/-- with the other base point the emitted function is not the interpolant -/
theorem C02_finterp_wrong_base : finterp false [0, 2] [1, 5] 1 ≠ interpSpec [0, 2] [1, 5] 1 := by decide +kernel

/-- which sample the current source starts from, and whether its offset bookkeeping tests the key it inserts (regenerated) -/
theorem C02_tables : Tables.finterpBaseIsPrev = true ∧ Tables.idxOffsetKeyConsistent = true ∧ Tables.torchInterpIsLinear = true := by decide

/-- the Fortran function the current source emits is the interpolant -/
theorem C02_finterp_current (xs ys : List Rat) (t : Rat) (hl : xs.length = ys.length) (h1 : 1 ≤ xs.length) (hs : StrictSorted xs) :
    finterp Tables.finterpBaseIsPrev xs ys t = interpSpec xs ys t := by
  rw [C02_tables.1]; exact C02_finterp_eq_spec xs ys t hl h1 hs

/-! ## index offsets -/

theorem processIdx_shifted_mem (start : Int) (s : IdxState) (v : String) (h : start ≠ 0) :
    v ∈ (processIdx start true s v).shifted := by
  unfold processIdx
  by_cases hc : v ∈ s.shifted
  · simp [hc]
  · simp [hc, h]

/-- rendering an already shifted index variable again changes nothing -/
theorem C02_idx_idempotent (start : Int) (s : IdxState) (v : String) (hm : v ∈ s.shifted) : processIdx start true s v = s := by
  unfold processIdx
  simp [hm]

/-- a second rendering changes nothing, also for a backend whose start index is 0 (where nothing is ever shifted) -/
theorem processIdx_twice (start : Int) (s : IdxState) (v : String) :
    processIdx start true (processIdx start true s v) v = processIdx start true s v := by
  by_cases h : start = 0
  · simp [processIdx, h]
  · exact C02_idx_idempotent start _ v (processIdx_shifted_mem start s v h)

theorem idx_once (start : Int) (s : IdxState) (v : String) (k : Nat) :
    (List.replicate (k + 1) v).foldl (processIdx start true) s = processIdx start true s v := by
  induction k with
  | zero => rfl
  | succ k ih =>
    rw [List.replicate_succ', List.foldl_append, ih]
    exact processIdx_twice start s v

/-- an index variable is shifted exactly once, however often it is rendered -/
theorem C02_idx_once (start : Int) (s : IdxState) (v : String) (k : Nat) (h : start ≠ 0) :
    (List.replicate (k + 1) v).foldl (processIdx start true) s = processIdx start true s v :=
  idx_once start s v k

/-- with an inconsistent key every rendering shifts again -/
example : ((List.replicate 2 "t").foldl (processIdx 1 false) ⟨[("t", 0)], []⟩).get "t" = 2
    ∧ ((List.replicate 2 "t").foldl (processIdx 1 true) ⟨[("t", 0)], []⟩).get "t" = 1 := by decide +kernel

example : interpSpec [0, 2, 4] [1, 4, 2] 1 = 5/2 ∧ finterp true [0, 2, 4] [1, 4, 2] 3 = 3 ∧ finterp true [0, 2, 4] [1, 4, 2] 9 = 2
    ∧ finterp true [0, 2, 4] [1, 4, 2] 4 = 2 ∧ finterp true [0, 2, 4] [1, 4, 2] 0 = 1 := by decide +kernel

end PyRates.Backends
