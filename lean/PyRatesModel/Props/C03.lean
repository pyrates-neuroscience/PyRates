import PyRatesModel.Lemmas.Solver
import PyRatesModel.Generated.Tables
/-!
# C03 — run() returns the numerical solution of the compiled system (fixed-step part)

Model: `PyRatesModel/Solver/Fixed.lean`.  The adaptive half of the statement (scipy/diffrax approximate the true solution)
is numerical analysis of third-party integrators and is *not* covered by these theorems (DESIGN.md §I.4, C03).  The rows of the storage loop for either form of the
storage condition are `Lemmas/Solver.solve_rows`; the row theorems below are its instances.
-/
namespace PyRates.Tables
open PyRates.Solver in
/-- the time-axis form found in the current source -/
def timeAxisKind : AxisKind := if timeAxisIsArange then .arangeStep else .linspaceOpen
end PyRates.Tables

namespace PyRates.Solver

/-- **Rows of the storage loop.**  With `steps = m·s`, `m` rows allocated and sampling every `s > 0` steps, the loop
terminates without error, writes every row (no garbage memory is returned), and row `k` is the state after `k·s` steps;
in particular row 0 is the initial state. -/
theorem C03_solve_rows (g : Bool) (step : Nat → Vec → Vec) (m s : Nat) (hs : 0 < s) (y0 : Vec) :
    solve g step (m * s) m s y0 = .ok ((List.range m).map (fun k => some (iter step 0 (k * s) y0))) :=
  solve_rows_full g step (m * s) m s hs y0 (Or.inr (Nat.le_refl _)) fun _ hk => Nat.mul_lt_mul_of_pos_right hk hs

/-- `_solve_euler` rows are the Euler iterates, the j-th step called with `t = t0 + j`. -/
theorem C03_euler_rows (g : Bool) (f : Field) (dt : Rat) (t0 m s : Nat) (hs : 0 < s) (y0 : Vec) :
    solve g (eulerStepCode f dt t0) (m * s) m s y0
      = .ok ((List.range m).map (fun k => some (iter (eulerStepCode f dt t0) 0 (k * s) y0))) :=
  C03_solve_rows g _ m s hs y0

/-- The coded Heun step is the textbook Heun step whenever the solver copies the returned right-hand side
or the vector field returns a fresh array. -/
theorem C03_heunStepCode_eq (f : Field) (inPlace copyRhs : Bool) (h : copyRhs = true ∨ inPlace = false)
    (dt : Rat) (t0 i : Nat) (y : Vec) : heunStepCode f inPlace copyRhs dt t0 i y = heunStep f dt t0 i y := by
  rcases h with h | h <;> simp [heunStepCode, heunStep, h]

/-- `_solve_heun` as it is in the current source (`Tables.heunCopiesRhs` is regenerated from `_solve_heun`'s text) returns the
Heun iterates for both vector-field conventions. -/
theorem C03_heun_rows (g : Bool) (f : Field) (inPlace : Bool) (dt : Rat) (t0 m s : Nat) (hs : 0 < s) (y0 : Vec) :
    solve g (heunStepCode f inPlace Tables.heunCopiesRhs dt t0) (m * s) m s y0
      = .ok ((List.range m).map (fun k => some (iter (heunStep f dt t0) 0 (k * s) y0))) := by
  have : heunStepCode f inPlace Tables.heunCopiesRhs dt t0 = heunStep f dt t0 := by
    funext i y; exact C03_heunStepCode_eq f inPlace _ (Or.inl (by decide)) dt t0 i y
  rw [this]; exact C03_solve_rows g _ m s hs y0

/-- Witness for why the copy matters: with an in-place vector field and no copy the coded step is *not* Heun's
(`x' = -x/2`, `dt = 1`, `x = 1`: 3/4 instead of 5/8). -/
theorem C03_heun_alias_counterexample :
    let f : Field := fun _ y => y.map (fun x => -x / 2)
    heunStepCode f true false 1 0 0 [1] = [3/4] ∧ heunStep f 1 0 0 [1] = [5/8] := by decide +kernel

/-- **The jax scheme** (`lax.scan` over `store_steps` blocks of `store_step` steps) returns the same rows for *every*
`store_steps`/`store_step` — there is no relation between `T` and the step sizes it depends on. -/
theorem C03_scan_rows (step : Nat → Vec → Vec) (m s : Nat) (y0 : Vec) :
    scanSolve step m s y0 = (List.range m).map (fun k => iter step 0 (k * s) y0) := by
  have := scanOuter_spec step s y0 m 0
  simpa [scanSolve, iter] using this

/-- hence both schemes agree whenever the numpy scheme's guard holds -/
theorem C03_scan_eq_loop (g : Bool) (step : Nat → Vec → Vec) (m s : Nat) (hs : 0 < s) (y0 : Vec) :
    solve g step (m * s) m s y0 = .ok ((scanSolve step m s y0).map some) := by
  rw [C03_solve_rows g step m s hs, C03_scan_rows]; simp

/-- The time axis as the current source builds it (`Tables.timeAxisKind`): the index holds the times `k·dts`
for `k < round(T/dts)`, for **every** `T` (multiple of the sampling step or not). -/
theorem C03_time_index (T dts : Rat) :
    timeAxis Tables.timeAxisKind T dts
      = (List.range (pyRound (T / dts)).toNat).map (fun (k : Nat) => (k : Rat) * dts) := by
  rfl

/-- The `linspace(0, T, n, endpoint=False)` form agrees with `k·dts` when `T = m·dts` … -/
theorem C03_time_index_linspace (m : Nat) (dts : Rat) (hd : dts ≠ 0) :
    timeAxis .linspaceOpen ((m : Rat) * dts) dts = (List.range m).map (fun (k : Nat) => (k : Rat) * dts) := by
  unfold timeAxis
  rw [Rat.mul_div_cancel hd, pyRound_nat]
  refine List.map_congr_left fun k hk => ?_
  show (k : Rat) * ((m : Rat) * dts / (m : Rat)) = (k : Rat) * dts
  have hm : (m : Rat) ≠ 0 := mt Rat.natCast_eq_zero_iff.mp (Nat.ne_of_gt (Nat.zero_lt_of_lt (List.mem_range.mp hk)))
  rw [Rat.mul_comm (m : Rat) dts, Rat.mul_div_cancel hm]

/-- … and does not otherwise (witness `T = 9/2`, `dts = 1`: 0, 9/8, 9/4, 27/8 label the states at times 0, 1, 2, 3). -/
theorem C03_time_index_linspace_counterexample :
    timeAxis .linspaceOpen (9/2) 1 = [0, 9/8, 9/4, 27/8] ∧ timeAxis .arangeStep (9/2) 1 = [0, 1, 2, 3] := by
  decide +kernel

/-- **End-to-end shape of a fixed-step run.**  For sampling an integer multiple `s ≥ 1` of the step and `T` a multiple `m`
of the sampling step, the result is exactly the list of `(k·dts, state after k·s steps)` for `k < m`, with the rows whose
time is below the cutoff dropped and the order kept. -/
theorem C03_run_spec (g : Bool) (step : Rat → Nat → Vec → Vec) (dt cutoff : Rat) (m s : Nat) (hs : 0 < s) (hdt : dt ≠ 0) (y0 : Vec) :
    runFixed g Tables.timeAxisKind step { T := (m : Rat) * ((s : Rat) * dt), dt := dt, dts := (s : Rat) * dt, cutoff := cutoff } y0
      = .ok (((List.range m).map (fun (k : Nat) => ((k : Rat) * ((s : Rat) * dt), some (iter (step dt) 0 (k * s) y0)))).filter
              (fun r => cutoff ≤ r.1)) := by
  have hsq : (s : Rat) ≠ 0 := mt Rat.natCast_eq_zero_iff.mp (Nat.ne_of_gt hs)
  have hdts : (s : Rat) * dt ≠ 0 := fun h => (Rat.mul_eq_zero.mp h).elim hsq hdt
  have e1 : (m : Rat) * ((s : Rat) * dt) / dt = ((m * s : Nat) : Rat) := by
    rw [Rat.natCast_mul, ← Rat.mul_assoc, Rat.mul_div_cancel hdt]
  have e2 : (m : Rat) * ((s : Rat) * dt) / ((s : Rat) * dt) = (m : Rat) := Rat.mul_div_cancel hdts
  have e3 : (s : Rat) * dt / dt = (s : Rat) := Rat.mul_div_cancel hdt
  unfold runFixed
  simp only [hdt, hdts, or_self, if_false, e1, e2, e3, pyRound_nat]
  rw [C03_solve_rows g _ m s hs y0, C03_time_index, e2, pyRound_nat]
  show (if _ then _ else _) = _      -- unfolds the `Except` bind around the length test
  simp only [List.length_map, List.length_range, ne_eq, not_true_eq_false, if_false]
  rw [List.zip_map']
  rfl

/-- **Rows of the guarded storage loop for every `steps`, `store_steps`, `store_step > 0`** (no relation between `T` and the step sizes
is assumed): the loop never raises, row `k` is the state after `k·s` steps whenever the integration reaches that instant and is
never-written memory otherwise. -/
theorem C03_guarded_rows (step : Nat → Vec → Vec) (steps m s : Nat) (hs : 0 < s) (y0 : Vec) :
    solve true step steps m s y0
      = .ok ((List.range m).map (fun k => if k * s < steps then some (iter step 0 (k * s) y0) else none)) :=
  solve_rows true step steps m s hs y0 (Or.inl rfl)

/-- in particular no garbage row is returned as soon as the last allocated row is due before the end: `(m-1)·s < steps` -/
theorem C03_guarded_no_garbage (step : Nat → Vec → Vec) (steps m s : Nat) (hs : 0 < s) (y0 : Vec) (h : ∀ k, k < m → k * s < steps) :
    solve true step steps m s y0 = .ok ((List.range m).map (fun k => some (iter step 0 (k * s) y0))) :=
  solve_rows_full true step steps m s hs y0 (Or.inl rfl) h

/-- the storage condition found in the current source is the guarded one -/
theorem C03_store_guarded : Tables.storeGuarded = true := by decide

/-- hence `_solve_euler`/`_solve_heun` as they are in the current source never raise on the record and return, for **every** `T`, step
and sampling step, the states at the sampling instants they reach (`round(T/dts)` rows, the number its time index has) -/
theorem C03_current_rows (step : Nat → Vec → Vec) (steps m s : Nat) (hs : 0 < s) (y0 : Vec) :
    solve Tables.storeGuarded step steps m s y0
      = .ok ((List.range m).map (fun k => if k * s < steps then some (iter step 0 (k * s) y0) else none)) := by
  rw [C03_store_guarded]; exact C03_guarded_rows step steps m s hs y0

/-- Outside the hypothesis `T = m·dts` the two forms of the storage condition differ.  Without the guard the loop fails loudly rather than
returning garbage: `T = 5, dt = 1, dts = 2` stores three rows into a buffer of `round(5/2) = 2` (half-even) rows — an IndexError.  With the guard
(the form found in the current source, `Tables.storeGuarded`) the run returns exactly the `round(T/dts)` rows that its time index announces. -/
theorem C03_nonmultiple_T_unguarded_raises :
    runFixed false Tables.timeAxisKind (fun _ _ y => y) { T := 5, dt := 1, dts := 2, cutoff := 0 } [1] = .error .indexError := by
  decide +kernel

theorem C03_nonmultiple_T_rows :
    runFixed Tables.storeGuarded Tables.timeAxisKind (fun dt => eulerStepCode (fun _ y => y) dt 0) { T := 5, dt := 1, dts := 2, cutoff := 0 } [1]
      = .ok [(0, some [1]), (2, some [4])] := by
  decide +kernel

/-- Non-vacuity: a concrete run (`x' = -x/2 + t`, Euler, `dt = 1/2`, `dts = 1`, `T = 3`, `cutoff = 1`). -/
example :
    runFixed Tables.storeGuarded Tables.timeAxisKind (fun dt => eulerStepCode (fun t y => y.map (fun x => -x/2 + (t : Rat))) dt 0)
      { T := 3, dt := 1/2, dts := 1, cutoff := 1 } [1]
    = .ok [(1, some [17/16]), (2, some [729/256])] := by decide +kernel

end PyRates.Solver
