import PyRatesModel.Props.C01
import PyRatesModel.Lemmas.List
/-!
# C04 — vectorization does not change the model (mechanism theorems)

The specification (`Net.IsSolution`) speaks about frontend variables only, so it does not mention how nodes are grouped: any
compilation scheme that satisfies it per frontend variable yields the same dynamics.  What vectorization adds are two data-dependent
mechanisms in `NetworkGraph._generate_edge_equation`; they are modelled and proved equivalent here:

* the **matrix branch**: a weight matrix is filled from the list of (target index, source index, weight) triples of all merged edges
  (`weight_mat[row, col] += w`) and multiplied with the source vector;
* the **indexed branch**: `t[tidx] = s[sidx] * w`, used only when all target indices are distinct.

Both equal the grouped sum `Σ_{(t,s,w), t = i} w · x_s`, duplicates (parallel edges) included — hence the branch chosen by the
`matrix_sparseness` threshold cannot matter.
-/
namespace PyRates.Vec

abbrev Triple := Nat × Nat × Rat     -- (target index, source index, weight)

/-- what target `i` must receive: the sum over **all** triples with that target -/
def groupedSum (ts : List Triple) (x : Nat → Rat) (i : Nat) : Rat :=
  (ts.map (fun (t : Triple) => if t.1 = i then t.2.2 * x t.2.1 else 0)).sum

/-- `weight_mat[row, col] += w` for every triple, starting from zeros (matrix as a function) -/
def fillAcc (ts : List Triple) : Nat → Nat → Rat :=
  ts.foldl (fun W (t : Triple) => fun r c => if r = t.1 ∧ c = t.2.1 then W r c + t.2.2 else W r c) (fun _ _ => 0)

/-- the pre-fix code: `weight_mat[row, col] = w` -/
def fillOverwrite (ts : List Triple) : Nat → Nat → Rat :=
  ts.foldl (fun W (t : Triple) => fun r c => if r = t.1 ∧ c = t.2.1 then t.2.2 else W r c) (fun _ _ => 0)

/-- row `i` of `W · x` for `n` source entries -/
def matvec (W : Nat → Nat → Rat) (x : Nat → Rat) (n : Nat) (i : Nat) : Rat :=
  ((List.range n).map (fun j => W i j * x j)).sum

theorem groupedSum_cons (t : Triple) (rest : List Triple) (x : Nat → Rat) (i : Nat) :
    groupedSum (t :: rest) x i = (if t.1 = i then t.2.2 * x t.2.1 else 0) + groupedSum rest x i := rfl

theorem groupedSum_zero (rest : List Triple) (x : Nat → Rat) (i : Nat) (h : ∀ t ∈ rest, t.1 ≠ i) :
    groupedSum rest x i = 0 :=
  sum_map_eq_zero rest _ fun t ht => if_neg (h t ht)

theorem matvec_succ (W : Nat → Nat → Rat) (x : Nat → Rat) (n i : Nat) :
    matvec W x (n + 1) i = matvec W x n i + W i n * x n := by
  simp [matvec, List.range_succ, List.sum_append, Rat.add_zero]

theorem matvec_update (W : Nat → Nat → Rat) (x : Nat → Rat) (a b : Nat) (w : Rat) (n i : Nat) :
    matvec (fun r c => if r = a ∧ c = b then W r c + w else W r c) x n i
      = matvec W x n i + if a = i ∧ b < n then w * x b else 0 := by
  induction n with
  | zero => simp [matvec, Rat.add_zero]
  | succ n ih =>
    rw [matvec_succ, matvec_succ, ih]
    -- column `n` adds `w * x b` exactly when `i = a ∧ n = b`, and `b < n + 1` is `b < n ∨ b = n`; the rest is ring arithmetic
    grind

theorem matvec_fold (ts : List Triple) (x : Nat → Rat) (n i : Nat) (hs : ∀ t ∈ ts, t.2.1 < n) (W0 : Nat → Nat → Rat) :
    matvec (ts.foldl (fun W (t : Triple) => fun r c => if r = t.1 ∧ c = t.2.1 then W r c + t.2.2 else W r c) W0) x n i
      = matvec W0 x n i + groupedSum ts x i := by
  induction ts generalizing W0 with
  | nil => exact (Rat.add_zero _).symm
  | cons t rest ih =>
    rw [List.forall_mem_cons] at hs
    rw [List.foldl_cons, ih hs.2, matvec_update, groupedSum_cons, Rat.add_assoc]
    simp only [hs.1, and_true]

/-- **Matrix branch.**  The weight matrix filled by accumulation, times the source vector, gives every target the sum over all
merged edges that lead to it — parallel edges (identical (target, source) pairs) included. -/
theorem C04_weightMat_matvec (ts : List Triple) (x : Nat → Rat) (n i : Nat) (hs : ∀ t ∈ ts, t.2.1 < n) :
    matvec (fillAcc ts) x n i = groupedSum ts x i := by
  rw [fillAcc, matvec_fold ts x n i hs, matvec, sum_map_eq_zero _ _ fun j _ => Rat.zero_mul _, Rat.zero_add]

/-- the indexed branch `t[tidx] = s[sidx] * w`: the value written to target `i` is that of the **last** triple with target `i` -/
def scatter (ts : List Triple) (x : Nat → Rat) : Nat → Rat :=
  ts.foldl (fun (out : Nat → Rat) (t : Triple) => fun i => if i = t.1 then t.2.2 * x t.2.1 else out i) (fun _ => 0)

theorem scatter_fold (ts : List Triple) (x : Nat → Rat) (out0 : Nat → Rat) (i : Nat) (hd : (ts.map (·.1)).Nodup) :
    ts.foldl (fun (out : Nat → Rat) (t : Triple) => fun i => if i = t.1 then t.2.2 * x t.2.1 else out i) out0 i
      = (if i ∈ ts.map (·.1) then 0 else out0 i) + groupedSum ts x i := by
  induction ts generalizing out0 with
  | nil => exact (Rat.add_zero _).symm
  | cons t rest ih =>
    rw [List.map_cons, List.nodup_cons] at hd
    rw [List.foldl_cons, ih _ hd.2, groupedSum_cons, List.map_cons]
    by_cases hi : i = t.1
    · subst hi
      simp only [if_neg hd.1, if_true, List.mem_cons_self, Rat.zero_add]
    · simp only [List.mem_cons, hi, false_or, if_false, if_neg (Ne.symm hi), Rat.zero_add]

/-- **Indexed branch.**  When all target indices are distinct (the only situation in which the code takes this branch) the scatter
writes the grouped sum as well … -/
theorem C04_scatter_distinct (ts : List Triple) (x : Nat → Rat) (i : Nat) (hd : (ts.map (·.1)).Nodup) :
    scatter ts x i = groupedSum ts x i := by
  rw [scatter, scatter_fold ts x _ i hd, ite_self, Rat.zero_add]

/-- … so both branches are interchangeable: the `matrix_sparseness` threshold cannot change the result. -/
theorem C04_branch_irrelevant (ts : List Triple) (x : Nat → Rat) (n i : Nat) (hs : ∀ t ∈ ts, t.2.1 < n)
    (hd : (ts.map (·.1)).Nodup) : matvec (fillAcc ts) x n i = scatter ts x i := by
  rw [C04_weightMat_matvec ts x n i hs, C04_scatter_distinct ts x i hd]

/-- Witness (pre-fix code): with `=` instead of `+=` two parallel edges (weights 3 and 5) deliver 5·x, not 8·x. -/
theorem C04_overwrite_counterexample :
    matvec (fillOverwrite [(0, 0, 3), (0, 0, 5)]) (fun _ => 1) 1 0 = 5 ∧ matvec (fillAcc [(0, 0, 3), (0, 0, 5)]) (fun _ => 1) 1 0 = 8 := by
  decide +kernel

end PyRates.Vec
