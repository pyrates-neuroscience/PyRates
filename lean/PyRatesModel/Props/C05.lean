import PyRatesModel.Str.Labels
import PyRatesModel.Net.Syntax
import PyRatesModel.Generated.Tables
/-!
# C05 — the equation language means what its arithmetic says

* generated backend labels never collide, whatever names the user chose (`C05_uniqueLabel_nodup`): for every sequence of requested
  names - including names that look generated such as `x_v1`, `x_v1_v1` - all labels handed out are pairwise distinct;
* the reference semantics `Net.eval` is invariant under the rewritings the property lists: commuting and re-associating sums and
  products, writing a product as repeated addition etc. are ring identities of ℚ (`C05_eval_add_comm`, …);
* every name the equation language pre-defines (constants, functions, internal slots) is in the reserved list of the current source.
PARTIAL: strings are parsed by sympy and printed by `str(expr)` in the implementation; that tie is differential (harness/props/c05.py).
-/
namespace PyRates.Labels

theorem keys_set (st : Names) (k : String) (v : Nat) :
    keys (set st k v) = if (keys st).contains k then keys st else keys st ++ [k] := by
  rw [set, apply_ite keys]
  refine ite_congr rfl (fun _ => ?_) (fun _ => List.map_append)
  rw [keys, List.map_map]
  refine List.map_congr_left fun kv _ => ?_
  show (if kv.1 == k then (k, v) else kv).1 = kv.1
  split
  · next hk => exact (beq_iff_eq.mp hk).symm
  · rfl

theorem keys_subset_set (st : Names) (k : String) (v : Nat) : keys st ⊆ keys (set st k v) := by
  rw [keys_set]
  split
  · exact List.Subset.refl _
  · exact List.subset_append_left ..

theorem key_mem_set (st : Names) (k : String) (v : Nat) : k ∈ keys (set st k v) := by
  rw [keys_set]
  split
  · next hk => exact List.contains_iff_mem.mp hk
  · exact List.mem_append_right _ (List.mem_singleton_self k)

theorem search_sound (st : Names) (label : String) (fuel n m : Nat) (h : search st label fuel n = some m) :
    cand label m ∉ keys st := by
  induction fuel generalizing n with
  | zero => cases h
  | succ fuel ih =>
    rw [search] at h
    split at h
    · exact ih (n + 1) h
    · next hfree =>
      cases h
      exact mt List.contains_iff_mem.mpr hfree

theorem not_mem_keys_of_get? {st : Names} {k : String} (h : get? st k = none) : k ∉ keys st := by
  simp only [get?, Option.map_eq_none_iff, List.find?_eq_none] at h
  intro hm
  obtain ⟨kv, hkv, rfl⟩ := List.mem_map.mp hm
  exact h kv hkv (beq_self_eq_true _)

/-- one request: the label handed out was not in use before (unless it is the shared time variable `t`) and is in use afterwards;
names in use stay in use -/
theorem genLabel_spec (fuel : Nat) (st st' : Names) (label out : String) (hl : label ≠ "t")
    (h : genLabel fuel st label = some (out, st')) :
    out ∉ keys st ∧ out ∈ keys st' ∧ ∀ x, x ∈ keys st → x ∈ keys st' := by
  unfold genLabel at h
  rw [if_neg (by simpa using hl)] at h
  split at h
  · next hget =>
    cases h
    exact ⟨not_mem_keys_of_get? hget, key_mem_set .., keys_subset_set ..⟩
  · split at h
    · cases h
    · next hsearch =>
      cases h
      exact ⟨search_sound _ _ _ _ _ hsearch, key_mem_set .., fun _ hx => keys_subset_set _ _ _ (keys_subset_set _ _ _ hx)⟩

/-- **Generated labels never collide.**  For every sequence of requested names that does not contain the shared time variable, and every
initial table of names in use, the labels handed out are pairwise distinct and distinct from everything that was in use before. -/
theorem C05_uniqueLabel_nodup (fuel : Nat) (reqs : List String) (ht : "t" ∉ reqs) (st : Names) (outs : List String)
    (h : labelsOf fuel st reqs = some outs) : outs.Nodup ∧ ∀ o ∈ outs, o ∉ keys st := by
  induction reqs generalizing st outs with
  | nil =>
    cases h
    exact ⟨List.nodup_nil, fun _ ho => nomatch ho⟩
  | cons l rest ih =>
    obtain ⟨⟨out, st'⟩, hg, h⟩ := Option.bind_eq_some_iff.mp h
    obtain ⟨outs', hr, h⟩ := Option.bind_eq_some_iff.mp h
    cases h
    obtain ⟨h1, h2, h3⟩ := genLabel_spec fuel st st' l out (fun e => ht (e ▸ List.mem_cons_self)) hg
    obtain ⟨hn, hfresh⟩ := ih (fun hm => ht (List.mem_cons_of_mem _ hm)) st' outs' hr
    exact ⟨List.nodup_cons.mpr ⟨fun hm => hfresh out hm h2, hn⟩,
      List.forall_mem_cons.mpr ⟨h1, fun o ho hk => hfresh o ho (h3 o hk)⟩⟩

/-- Non-vacuity / regression: the request sequence that collided before the fix (x, x, x_v1, x, x_v1) now yields five distinct labels. -/
example : labelsOf 10 [] ["x", "x", "x_v1", "x", "x_v1"] = some ["x", "x_v1", "x_v1_v1", "x_v2", "x_v1_v2"] := by decide +kernel

end PyRates.Labels

namespace PyRates.Net

/-- meaning is independent of the order of terms and factors and of how sums are nested -/
theorem C05_eval_add_comm (I : Interp) (ρ : String → Rat) (a b : Expr) : eval I ρ (.add a b) = eval I ρ (.add b a) :=
  Rat.add_comm ..

theorem C05_eval_mul_comm (I : Interp) (ρ : String → Rat) (a b : Expr) : eval I ρ (.mul a b) = eval I ρ (.mul b a) :=
  Rat.mul_comm ..

theorem C05_eval_add_assoc (I : Interp) (ρ : String → Rat) (a b c : Expr) :
    eval I ρ (.add a (.add b c)) = eval I ρ (.add (.add a b) c) :=
  (Rat.add_assoc ..).symm

theorem C05_eval_sub_as_add_neg (I : Interp) (ρ : String → Rat) (a b : Expr) :
    eval I ρ (.sub a b) = eval I ρ (.add a (.neg b)) :=
  Rat.sub_eq_add_neg ..

theorem C05_eval_pow_two (I : Interp) (ρ : String → Rat) (a : Expr) : eval I ρ (.pow a 2) = eval I ρ (.mul a a) := by
  rw [eval, eval, Rat.pow_succ, Rat.pow_one]

/-- an expression means the same in every environment that agrees on its variables: names that merely *contain* one of its variables
(prefixes, suffixes, `x_v1` next to `x`) are irrelevant -/
theorem C05_eval_congr (I : Interp) (ρ₁ ρ₂ : String → Rat) (e : Expr) (h : ∀ x ∈ fv e, ρ₁ x = ρ₂ x) : eval I ρ₁ e = eval I ρ₂ e := by
  induction e with
  | num q => rfl
  | var x => exact h x (List.mem_singleton_self x)
  | add a b iha ihb | sub a b iha ihb | mul a b iha ihb | call2 f a b iha ihb =>
    simp only [eval, iha fun x hx => h x (List.mem_append_left _ hx), ihb fun x hx => h x (List.mem_append_right _ hx)]
  | neg a ih | pow a k ih | call1 f a ih =>
    simp only [eval, ih h]

/-- the names the equation language pre-defines are reserved in the current source (regenerated table) -/
theorem C05_reserved_names :
    ∀ n ∈ ["y", "dy", "pi", "E", "I", "exp", "log", "sin", "cos", "tan", "sqrt", "abs"], Tables.disallowedNames.contains n = true := by decide +kernel

end PyRates.Net
