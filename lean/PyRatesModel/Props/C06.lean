import PyRatesModel.Props.C01
import PyRatesModel.Props.C03
import PyRatesModel.Front.Paths
import PyRatesModel.Lemmas.List
/-!
# C06 — a variable path addresses the same variable everywhere

`run()` returns, for a resolved variable path `p`, the column `k ↦ (state after k·s steps)(p)`.  The two facts this rests on are
proved elsewhere and imported here so that the audit of C06 finds them: the reference semantics is stated per frontend path (`C01_solve_sound`) and the
stored rows are the iterates in order (`C03_solve_rows`).  What is specific to C06 is wildcard resolution.  The circuit hierarchy is
modelled as the list of its leaf-node paths in declaration order (a trie); `getNodes` mirrors `CircuitTemplate.get_nodes`
(frontend/template/circuit.py 908-973).  `C06_getNodes_flat` is the depth-1 case; `C06_getNodes_hier` covers hierarchies of any uniform
depth (`Hier`) for patterns with one component per level and for the single `all`.  A hierarchy is handled as the list `blocks cs` of its
sub-circuits' leaf lists, on which model (`getNodes_blocks`) and specification (`filter_blocks`) have the same equation.
-/
namespace PyRates.Paths

/-- the leaf list of a circuit whose sub-circuits `cs` (label, own leaf list) are listed one after the other -/
def blocks (cs : List (String × List NodePath)) : List NodePath := cs.flatMap (fun c => c.2.map (c.1 :: ·))

theorem blocks_flat (cs : List (String × List NodePath)) (h : ∀ c ∈ cs, c.2 = [[]]) :
    blocks cs = (cs.map Prod.fst).map (fun l => [l]) := by
  rw [blocks, flatMap_congr fun c hc => by rw [h c hc], List.map_map, List.map_eq_flatMap]
  rfl

/-- the dedup fold over non-empty runs of equal labels with pairwise distinct labels keeps one label per run -/
theorem foldl_dedup_runs {α β} [BEq α] [LawfulBEq α] (cs : List (α × List β)) (hne : ∀ c ∈ cs, c.2 ≠ []) (acc : List α)
    (hnd : (acc ++ cs.map Prod.fst).Nodup) :
    (cs.flatMap (fun c => c.2.map (fun _ => c.1))).foldl (fun acc l => if acc.contains l then acc else acc ++ [l]) acc
      = acc ++ cs.map Prod.fst := by
  induction cs generalizing acc with
  | nil => exact (List.append_nil acc).symm
  | cons c rest ih =>
    obtain ⟨q, qs, hq⟩ := List.exists_cons_of_ne_nil (hne c List.mem_cons_self)
    have hc : ¬ acc.contains c.1 = true := fun hm =>
      (List.nodup_append.mp hnd).2.2 c.1 (List.contains_iff_mem.mp hm) c.1 List.mem_cons_self rfl
    -- the first label of the run is new …
    rw [List.flatMap_cons, List.foldl_append, hq, List.map_cons, List.foldl_cons, if_neg hc]
    -- … the rest of the run is already in `acc ++ [c.1]`, and the other runs are the induction hypothesis
    rw [foldl_dedup_of_mem (qs.map fun _ => c.1) _ (List.forall_mem_map.mpr fun _ _ => List.mem_append_right _ List.mem_cons_self),
      ih (fun c' h => hne c' (List.mem_cons_of_mem c h)) _ (by rwa [List.append_assoc])]
    exact List.append_assoc ..

theorem children_blocks (cs : List (String × List NodePath)) (hne : ∀ c ∈ cs, c.2 ≠ []) (hnd : (cs.map Prod.fst).Nodup) :
    children (blocks cs) = cs.map Prod.fst := by
  have hheads : (blocks cs).filterMap List.head? = cs.flatMap (fun c => c.2.map (fun _ => c.1)) := by
    simp [blocks, List.filterMap_flatMap, List.filterMap_map, Function.comp_def]
  rw [children, hheads]
  exact foldl_dedup_runs cs hne [] hnd

theorem children_flat (labels : List String) (hd : labels.Nodup) : children (labels.map (fun l => [l])) = labels := by
  -- a flat circuit is the hierarchy whose every block is the single node `[[]]`
  have hl : (labels.map (fun l => (l, [([] : NodePath)]))).map Prod.fst = labels := by simp [Function.comp_def]
  have h := children_blocks (labels.map fun l => (l, [([] : NodePath)])) (List.forall_mem_map.mpr fun _ _ => List.cons_ne_nil _ _)
    (hl.symm ▸ hd)
  rwa [blocks_flat _ (List.forall_mem_map.mpr fun _ _ => rfl), hl] at h

theorem sub_blocks_eq (cs : List (String × List NodePath)) (l : String) :
    sub (blocks cs) l = cs.flatMap (fun c => if l == c.1 then c.2 else []) := by
  rw [sub, blocks, List.filter_flatMap, List.map_flatMap]
  refine flatMap_congr fun c _ => ?_
  by_cases h : c.1 = l
  · simp [List.filter_map, Function.comp_def, h]
  · simp [List.filter_map, Function.comp_def, h, Ne.symm h]

theorem sub_blocks (cs : List (String × List NodePath)) (hnd : (cs.map Prod.fst).Nodup) (c : String × List NodePath) (hc : c ∈ cs) :
    sub (blocks cs) c.1 = c.2 := by
  rw [sub_blocks_eq, flatMap_ite_single _ hnd hc]

theorem flatMap_children_blocks (cs : List (String × List NodePath)) (hne : ∀ c ∈ cs, c.2 ≠ []) (hnd : (cs.map Prod.fst).Nodup)
    (g : String → List NodePath → List NodePath) :
    (children (blocks cs)).flatMap (fun l => g l (sub (blocks cs) l)) = cs.flatMap (fun c => g c.1 c.2) := by
  rw [children_blocks cs hne hnd, List.flatMap_map]
  exact flatMap_congr fun c hc => by rw [sub_blocks cs hnd c hc]

theorem matchesPat_of_length (pat : List String) (q : NodePath) (h : pat.length = q.length) :
    matchesPat pat q = (pat.zip q).all (fun (a, b) => a == "all" || a == b) := by
  rw [matchesPat, beq_iff_eq.mpr h, Bool.true_and, Bool.or_eq_right_iff_imp]
  intro hall
  obtain rfl := eq_of_beq hall
  obtain ⟨x, rfl⟩ := List.length_eq_one_iff.mp h.symm
  rfl

theorem matchesPat_cons (p l : String) (rest : List String) (q : NodePath) (hq : rest.length = q.length) :
    matchesPat (p :: rest) (l :: q) = ((p == "all" || p == l) && matchesPat rest q) := by
  rw [matchesPat_of_length _ _ hq, matchesPat_of_length _ _ (congrArg (· + 1) hq)]
  rfl

theorem filter_blocks (cs : List (String × List NodePath)) (p : String) (rest : List String)
    (hlen : ∀ c ∈ cs, ∀ q ∈ c.2, q.length = rest.length) :
    (blocks cs).filter (matchesPat (p :: rest))
      = cs.flatMap (fun c => if (p == "all" || p == c.1) then (c.2.filter (matchesPat rest)).map (c.1 :: ·) else []) := by
  rw [blocks, List.filter_flatMap]
  refine flatMap_congr fun c hc => ?_
  rw [List.filter_map, Function.comp_def, List.filter_congr fun q hq => matchesPat_cons p c.1 rest q (hlen c hc q hq).symm]
  cases (p == "all" || p == c.1)
  · simp
  · simp

theorem globSpec_all (leaves : List NodePath) : globSpec leaves ["all"] = leaves :=
  List.filter_eq_self.mpr fun _ _ => rfl

theorem filter_single (labels : List String) (hd : labels.Nodup) (p : String) (hp : p ≠ "all") :
    (if labels.contains p then [[p]] else []) = (labels.map (fun l => [l])).filter (matchesPat [p]) := by
  have hm : ∀ l ∈ labels, [[l]].filter (matchesPat [p]) = if p == l then [[l]] else [] := fun l _ => by
    have : matchesPat [p] [l] = (p == l) := by
      rw [matchesPat_cons p l [] [] rfl, beq_false_of_ne hp]
      exact Bool.and_true _
    rw [List.filter_cons, this]
    rfl
  rw [List.map_eq_flatMap, List.filter_flatMap, flatMap_congr hm]
  split
  next h => exact (flatMap_ite_single (key := id) (fun l => [[l]]) (by rwa [List.map_id]) (List.contains_iff_mem.mp h)).symm
  next h => exact (flatMap_ite_none (key := id) (by rwa [List.map_id, ← List.contains_iff_mem])).symm

/-- Flat circuits (depth 1): `get_nodes` is the glob, for every set of node labels and every one-component pattern. -/
theorem C06_getNodes_flat (labels : List String) (hd : labels.Nodup) (p : String) (fuel : Nat) :
    getNodes (fuel + 1) (labels.map (fun l => [l])) [p] = globSpec (labels.map (fun l => [l])) [p] := by
  rw [getNodes, children_flat labels hd]
  split
  next h =>
    obtain rfl := eq_of_beq h
    rw [if_pos (by simp), globSpec_all]
  next h => exact filter_single labels hd p fun e => h (beq_iff_eq.mpr e)

/-- Non-vacuity / regression: a two-level hierarchy, prefix + `all`, single `all`, exact path (declaration order kept). -/
example :
    let leaves := [["c1", "p1"], ["c1", "p2"], ["c2", "p1"], ["c2", "q"]]
    getNodes 5 leaves ["c1", "all"] = globSpec leaves ["c1", "all"] ∧
    getNodes 5 leaves ["all"] = globSpec leaves ["all"] ∧
    getNodes 5 leaves ["all", "all"] = globSpec leaves ["all", "all"] ∧
    getNodes 5 leaves ["c2", "q"] = [["c2", "q"]] ∧
    getNodes 5 leaves ["all", "p1"] = [["c1", "p1"], ["c2", "p1"]] := by decide +kernel

/-! ### hierarchies of any depth -/

/-- the leaf paths of a circuit hierarchy of uniform depth `d`, in declaration order: at depth 0 a node (the empty relative path), at depth
`d+1` a non-empty list of distinctly labelled sub-hierarchies whose leaves are listed sub-circuit by sub-circuit -/
def Hier : Nat → List NodePath → Prop
  | 0, leaves => leaves = [[]]
  | d + 1, leaves => ∃ cs : List (String × List NodePath),
      cs ≠ [] ∧ (cs.map Prod.fst).Nodup ∧ (∀ c ∈ cs, Hier d c.2) ∧ leaves = cs.flatMap (fun c => c.2.map (c.1 :: ·))

theorem hier_ne_nil {d : Nat} {leaves : List NodePath} (h : Hier d leaves) : leaves ≠ [] := by
  induction d generalizing leaves with
  | zero => exact h ▸ List.cons_ne_nil _ _
  | succ d ih =>
    obtain ⟨cs, hne, -, hsub, rfl⟩ := h
    obtain ⟨c, hc⟩ := List.exists_mem_of_ne_nil cs hne
    obtain ⟨q, hq⟩ := List.exists_mem_of_ne_nil c.2 (ih (hsub c hc))
    exact List.ne_nil_of_mem (List.mem_flatMap.mpr ⟨c, hc, List.mem_map_of_mem hq⟩)

theorem hier_length {d : Nat} {leaves : List NodePath} (h : Hier d leaves) : ∀ q ∈ leaves, q.length = d := by
  induction d generalizing leaves with
  | zero =>
    obtain rfl : leaves = [[]] := h
    simp
  | succ d ih =>
    obtain ⟨cs, -, -, hsub, rfl⟩ := h
    intro q hq
    obtain ⟨c, hc, hq⟩ := List.mem_flatMap.mp hq
    obtain ⟨q', hq', rfl⟩ := List.mem_map.mp hq
    exact congrArg (· + 1) (ih (hsub c hc) q' hq')

theorem getNodes_nil (fuel : Nat) (pat : List String) : getNodes fuel [] pat = [] := by
  induction fuel generalizing pat with
  | zero => rfl
  | succ fuel ih =>
    unfold getNodes
    split
    · rfl
    · simp [children]
    · simp [children, sub, ih]

theorem getNodes_blocks (cs : List (String × List NodePath)) (hne : ∀ c ∈ cs, c.2 ≠ []) (hnd : (cs.map Prod.fst).Nodup)
    (fuel : Nat) (p q : String) (rest : List String) :
    getNodes (fuel + 1) (blocks cs) (p :: q :: rest)
      = cs.flatMap (fun c => if p == "all" || p == c.1 then (getNodes fuel c.2 (q :: rest)).map (c.1 :: ·) else []) := by
  simp only [getNodes]
  cases p == "all"
  · by_cases hmem : p ∈ cs.map Prod.fst
    · obtain ⟨c, hc, rfl⟩ := List.mem_map.mp hmem
      rw [if_neg Bool.false_ne_true, sub_blocks cs hnd c hc]
      exact (flatMap_ite_single (fun c => (getNodes fuel c.2 (q :: rest)).map (c.1 :: ·)) hnd hc).symm
    · rw [if_neg Bool.false_ne_true, sub_blocks_eq, flatMap_ite_none hmem, getNodes_nil]
      exact (flatMap_ite_none hmem).symm
  · exact flatMap_children_blocks cs hne hnd fun l s => (getNodes fuel s (q :: rest)).map (l :: ·)

theorem getNodes_blocks_all (cs : List (String × List NodePath)) (hne : ∀ c ∈ cs, c.2 ≠ []) (hnd : (cs.map Prod.fst).Nodup)
    (fuel : Nat) (hdeep : (blocks cs).all (fun q => q.length ≤ 1) = false) :
    getNodes (fuel + 1) (blocks cs) ["all"] = cs.flatMap (fun c => (getNodes fuel c.2 ["all"]).map (c.1 :: ·)) := by
  rw [getNodes, if_pos (beq_self_eq_true _), hdeep, if_neg Bool.false_ne_true]
  exact flatMap_children_blocks cs hne hnd fun l s => (getNodes fuel s ["all"]).map (l :: ·)

/-- **Hierarchical circuits**: on the leaf list of a circuit hierarchy of any depth `d ≥ 1` (sub-circuits of sub-circuits …, distinct labels per
level, any number of nodes) `get_nodes` is the glob for every pattern with one component per level and for the single `all`. -/
theorem C06_getNodes_hier : ∀ (d : Nat) (leaves : List NodePath) (pat : List String) (fuel : Nat),
    Hier (d + 1) leaves → (pat.length = d + 1 ∨ pat = ["all"]) → d + 1 ≤ fuel →
    getNodes fuel leaves pat = globSpec leaves pat := by
  intro d leaves pat fuel h hp hf
  induction d generalizing leaves pat fuel with
  | zero =>
    obtain ⟨fuel, rfl⟩ := Nat.exists_eq_add_one_of_ne_zero (Nat.ne_zero_of_lt hf)
    obtain ⟨cs, -, hnd, hsub, rfl⟩ := h
    obtain ⟨p, rfl⟩ : ∃ p, pat = [p] := hp.elim List.length_eq_one_iff.mp fun h => ⟨_, h⟩
    rw [← blocks, blocks_flat cs hsub]
    exact C06_getNodes_flat _ hnd p fuel
  | succ d ih =>
    obtain ⟨fuel, rfl⟩ := Nat.exists_eq_add_one_of_ne_zero (Nat.ne_zero_of_lt hf)
    have ⟨cs, _, hnd, hsub, e⟩ := h
    subst e
    have hne : ∀ c ∈ cs, c.2 ≠ [] := fun c hc => hier_ne_nil (hsub c hc)
    rw [← blocks] at h ⊢
    rcases hp with hp | rfl
    · match pat, hp with
      | p :: q :: rest, hp =>
        have hrl : (q :: rest).length = d + 1 := Nat.succ_inj.mp hp
        rw [getNodes_blocks cs hne hnd, globSpec,
          filter_blocks cs p (q :: rest) fun c hc x hx => (hier_length (hsub c hc) x hx).trans hrl.symm]
        refine flatMap_congr fun c hc => ?_
        rw [ih c.2 (q :: rest) fuel (hsub c hc) (Or.inl hrl) (Nat.le_of_succ_le_succ hf), globSpec]
    · obtain ⟨x, hx⟩ := List.exists_mem_of_ne_nil _ (hier_ne_nil h)
      rw [globSpec_all, getNodes_blocks_all cs hne hnd fuel (List.all_eq_false.mpr ⟨x, hx, by simp [hier_length h x hx]⟩)]
      refine flatMap_congr fun c hc => ?_
      rw [ih c.2 ["all"] fuel (hsub c hc) (Or.inr rfl) (Nat.le_of_succ_le_succ hf), globSpec_all]

/-- Non-vacuity: a concrete two-level hierarchy satisfies `Hier` (and the theorem applies to it). -/
example : Hier 2 [["c1", "p1"], ["c1", "p2"], ["c2", "q"]] := by
  refine ⟨[("c1", [["p1"], ["p2"]]), ("c2", [["q"]])], nofun, by simp, ?_, rfl⟩
  intro c hc
  simp only [List.mem_cons, List.mem_nil_iff, or_false] at hc
  rcases hc with rfl | rfl
  · exact ⟨[("p1", [[]]), ("p2", [[]])], nofun, by simp, by simp [Hier], rfl⟩
  · exact ⟨[("q", [[]])], nofun, by simp, by simp [Hier], rfl⟩

example : getNodes 3 [["c1", "p1"], ["c1", "p2"], ["c2", "q"]] ["all", "p1"] = [["c1", "p1"]] := by decide +kernel

end PyRates.Paths
