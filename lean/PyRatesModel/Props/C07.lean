import PyRatesModel.Front.Store
/-!
# C07 — overrides reach exactly their targets

Refinement of the object-table store (shared template objects, copy-on-write `update_var`) to the abstract map
`(label, var) ↦ value`: read-after-write, frame, and "last write wins" for every history.
-/
namespace PyRates.Front

theorem updateVar_wf (s : Store) (hw : s.WF) (label var : String) (x : Rat) : (s.updateVar true label var x).WF := by
  unfold Store.updateVar
  split
  · exact hw
  · intro l id' h
    simp only [if_true] at h ⊢
    split at h
    · cases h
      exact Nat.lt_succ_self _
    · exact Nat.lt_succ_of_lt (hw l id' h)

theorem updateVar_labels_isSome (s : Store) (label var : String) (x : Rat) (l : String) (h : (s.labels l).isSome) :
    ((s.updateVar true label var x).labels l).isSome := by
  unfold Store.updateVar
  split
  · exact h
  · simp only [if_true]
    split
    · rfl
    · exact h

/-- **Read after write** (copy-on-write store): the addressed node shows the written value. -/
theorem C07_read_after_write (s : Store) (dflt : String → Rat) (label var : String) (x : Rat)
    (hl : (s.labels label).isSome) :
    (s.updateVar true label var x).valueAt dflt label var = x := by
  obtain ⟨id, hid⟩ := Option.isSome_iff_exists.mp hl
  simp [Store.updateVar, Store.valueAt, hid, setVar]

/-- **Frame**: every other (label, variable) pair keeps its value — in particular nodes that share the same template object. -/
theorem C07_frame (s : Store) (hw : s.WF) (dflt : String → Rat) (label var : String) (x : Rat) (label' var' : String)
    (hne : label' ≠ label ∨ var' ≠ var) :
    (s.updateVar true label var x).valueAt dflt label' var' = s.valueAt dflt label' var' := by
  unfold Store.updateVar
  split
  · rfl
  · next id hid =>
    simp only [if_true, Store.valueAt]
    by_cases hl : label' = label
    · subst hl
      simp [hid, setVar, hne.resolve_left (not_not_intro rfl)]
    · rw [if_neg hl]
      split
      · rfl
      · next id' hl' => rw [if_neg (Nat.ne_of_lt (hw label' id' hl'))]

/-- the label that is read need not be defined: an undefined one shows the default before and after -/
theorem refines_map (h : List (String × String × Rat)) (s : Store) (hw : s.WF) (dflt : String → Rat) (label var : String)
    (hall : ∀ w ∈ h, (s.labels w.1).isSome) :
    (s.run true h).valueAt dflt label var = (lastWrite h label var).getD (s.valueAt dflt label var) := by
  induction h generalizing s with
  | nil => rfl
  | cons w rest ih =>
    obtain ⟨l, v, x⟩ := w
    rw [Store.run, ih (s.updateVar true l v x) (updateVar_wf s hw l v x)
      (fun w hw' => updateVar_labels_isSome s l v x w.1 (hall w (List.mem_cons_of_mem _ hw'))), lastWrite]
    cases lastWrite rest label var with
    | some y => rfl
    | none =>
      by_cases e : l = label ∧ v = var
      · obtain ⟨rfl, rfl⟩ := e
        simp [C07_read_after_write s dflt l v x (hall _ List.mem_cons_self)]
      · simp only [e, if_false, Option.getD_none]
        exact C07_frame s hw dflt l v x label var ((Decidable.not_and_iff_not_or_not.mp e).imp Ne.symm Ne.symm)

/-- **Last write wins, for every history.**  After any sequence of single-node `update_var` calls the value shown for a node variable
is the last value written to exactly that (node, variable), and the value it had before the history if none was. -/
theorem C07_refines_map (h : List (String × String × Rat)) (s : Store) (hw : s.WF) (dflt : String → Rat) (label var : String)
    (hall : ∀ w ∈ h, (s.labels w.1).isSome) (hlab : (s.labels label).isSome) :
    (s.run true h).valueAt dflt label var = (lastWrite h label var).getD (s.valueAt dflt label var) :=
  refines_map h s hw dflt label var hall

/-- Witness: without the `deepcopy` (write into the shared object) the frame property fails — two labels sharing a template both change. -/
theorem C07_alias_counterexample :
    let s : Store := { objs := fun _ k => if k = "op/a" then some 1 else none, labels := fun l => if l = "p1" ∨ l = "p2" then some 0 else none, next := 1 }
    (s.updateVar false "p1" "op/a" 5).valueAt (fun _ => 0) "p2" "op/a" = 5 ∧
    (s.updateVar true "p1" "op/a" 5).valueAt (fun _ => 0) "p2" "op/a" = 1 := by decide +kernel

end PyRates.Front
