import PyRatesModel.Props.C19
import PyRatesModel.Lemmas.Solver
import PyRatesModel.Props.C01
/-!
# C08 — extrinsic inputs are applied at the right time to the right unit

* fixed step: `create_input_node` emits `u = index(u_input, t)` and the solvers pass the step counter, so sample `k` is the value used
  during step `k` (both Heun evaluations of step `k` included); for a pure integrator the state is the running sum of the samples.
* adaptive: `u = interp(t, linspace(0, T, N), u_input)`; `np.interp` is the clamped piecewise-linear interpolant.  It is the same
  function as the `DDEHistory` query (C19) on the history whose records are `(time_k, [sample_k])`, so C19's theorems carry over.
* several inputs and edges converging on one variable add up: `inputValue` (Net/Syntax.lean) sums feeders, edges and `ext p`.
-/
namespace PyRates.Inputs
open PyRates.Solver PyRates.Hist

/-- vector field of the pure integrator `x' = u` with `u` the sample indexed by the step counter -/
def integratorField (U : Nat → Rat) : Field := fun t _ => [U t]

def partialSum (U : Nat → Rat) : Nat → Rat
  | 0 => 0
  | k + 1 => partialSum U k + U k

/-- **Sample k drives step k.**  Under Euler the integrator `x' = u` holds `x_0 + dt·Σ_{i<k} u_i` after `k` steps. -/
theorem C08_sample_k_in_step_k (U : Nat → Rat) (dt : Rat) (k : Nat) (x0 : Rat) :
    iter (eulerStepCode (integratorField U) dt 0) 0 k [x0] = [x0 + dt * partialSum U k] := by
  induction k with
  | zero => simp [iter, partialSum, Rat.add_zero]
  | succ k ih =>
    rw [iter_succ_right, ih]
    simp [eulerStepCode, integratorField, Solver.vadd, Solver.vscale, partialSum, Rat.mul_add, Rat.add_assoc]

/-- Heun: both evaluations of step `k` use sample `k`, so for an integrator Heun and Euler coincide. -/
theorem C08_heun_uses_same_sample (U : Nat → Rat) (dt : Rat) (i : Nat) (x : Rat) :
    heunStep (integratorField U) dt 0 i [x] = [x + dt * U i] := by
  simp [heunStep, integratorField, Solver.vadd, Solver.vscale]; grind

/-- `np.interp(t, xs, ys)` as the query of the history with records `(xs_k, [ys_k])` -/
def interpHist (xs ys : List Rat) : Hist :=
  { ts := xs, rows := ys.map (fun y => some [y]), n := xs.length, growable := false }

def npInterp (xs ys : List Rat) (t : Rat) : Except Hist.Err Hist.Vec := (interpHist xs ys).query t

theorem interpHist_wf (xs ys : List Rat) (h : xs.length = ys.length) (h1 : 1 ≤ xs.length) : (interpHist xs ys).WF := by
  refine ⟨rfl, h1, by simp [interpHist, h], ?_⟩
  intro i hi
  have hi' : i < ys.length := by simpa [interpHist, h] using hi
  exact ⟨[ys[i]], by simp [interpHist, hi']⟩

/-- at a grid point the interpolant returns exactly the sample (C19_query_at_record transported) -/
theorem C08_interp_at_grid (xs ys : List Rat) (h : xs.length = ys.length) (h1 : 1 ≤ xs.length) (hs : StrictSorted xs)
    (i : Nat) (hi : i < xs.length) : npInterp xs ys xs[i] = .ok [ys[i]'(by omega)] := by
  have hw := interpHist_wf xs ys h h1
  have hd : (interpHist xs ys).Dim 1 := by
    intro j v hv
    simp only [interpHist, List.getElem?_map] at hv
    cases hy : ys[j]? with
    | none => simp [hy] at hv
    | some y => simp [hy] at hv; subst hv; rfl
  have := C19_query_at_record (interpHist xs ys) hw hs 1 hd i hi
  have hi' : i < ys.length := by omega
  have hrow : (interpHist xs ys).row i = .ok [ys[i]] := by simp [Hist.row, interpHist, hi']
  unfold npInterp
  exact this.trans hrow

/-- clamped outside the grid -/
theorem C08_interp_clamp_left (xs ys : List Rat) (h : xs.length = ys.length) (h1 : 1 ≤ xs.length) (t : Rat)
    (ht : t ≤ xs.head (by intro e; simp [e] at h1)) : npInterp xs ys t = (interpHist xs ys).row 0 :=
  C19_query_before (interpHist xs ys) (interpHist_wf xs ys h h1) t ht

/-- linear between neighbouring grid points -/
theorem C08_interp_between (xs ys : List Rat) (h : xs.length = ys.length) (h1 : 1 ≤ xs.length) (hs : StrictSorted xs) (t : Rat)
    (i : Nat) (hi : i + 1 < xs.length) (ha : xs[i]'(by omega) ≤ t) (hb : t < xs[i+1])
    (hf : xs.head (by intro e; simp [e] at h1) < t) :
    npInterp xs ys t = (do let y0 ← (interpHist xs ys).row i; let y1 ← (interpHist xs ys).row (i+1);
                           pure (lerp (xs[i]'(by omega)) xs[i+1] t y0 y1)) :=
  C19_query_between (interpHist xs ys) (interpHist_wf xs ys h h1) hs t i hi ha hb hf

/-- Non-vacuity: samples 1, 4, 2 on the grid 0, 2, 4: interpolated at 1 → 5/2, at 3 → 3, clamped at -1 and 9. -/
example : exEq (npInterp [0, 2, 4] [1, 4, 2] 1) (.ok [5/2]) && exEq (npInterp [0, 2, 4] [1, 4, 2] 3) (.ok [3])
    && exEq (npInterp [0, 2, 4] [1, 4, 2] (-1)) (.ok [1]) && exEq (npInterp [0, 2, 4] [1, 4, 2] 9) (.ok [2]) = true := by decide +kernel

end PyRates.Inputs
