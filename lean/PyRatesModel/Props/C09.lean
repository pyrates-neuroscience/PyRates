import PyRatesModel.Props.C01
/-!
# C09 — discrete edge delays shift the source by round(delay/dt) steps

Mechanism: `_add_edge_buffer` (ir/circuit.py 595-641) emits, per call of the generated function,
`buf = roll(buf, 1); buf[0] = x; out = buf[d]` on a zero-initialised buffer of `d + 1` slots; for a vectorized source one
such row per unit, read by `index_2d(buffer, source_idx, delays)`.  Delays are whole numbers of steps here: the rounding
`round(delay/dt)` is `C11_slot_ring_steps`.
-/
namespace PyRates.Delay

/-- `np.roll(buf, 1)` followed by `buf[0] = x` -/
def push (buf : List Rat) (x : Rat) : List Rat := x :: buf.dropLast

/-- buffer after the calls for steps `0 … k-1` with source values `xs 0 … xs (k-1)`, starting from zeros -/
def bufAfter (n : Nat) (xs : Nat → Rat) : Nat → List Rat
  | 0 => List.replicate n 0
  | k + 1 => push (bufAfter n xs k) (xs k)

theorem push_length (buf : List Rat) (x : Rat) (h : 0 < buf.length) : (push buf x).length = buf.length := by
  rw [push, List.length_cons, List.length_dropLast, Nat.sub_add_cancel h]

theorem getElem?_push_succ (buf : List Rat) (x : Rat) (j : Nat) :
    (push buf x)[j + 1]? = if j + 1 < buf.length then buf[j]? else none := by
  simp only [push, List.getElem?_cons_succ, List.getElem?_dropLast, Nat.lt_sub_iff_add_lt]

theorem bufAfter_length (n : Nat) (hn : 0 < n) (xs : Nat → Rat) (k : Nat) : (bufAfter n xs k).length = n := by
  induction k with
  | zero => exact List.length_replicate
  | succ k ih => rw [bufAfter, push_length _ _ (by rw [ih]; exact hn), ih]

theorem getElem?_bufAfter (n : Nat) (xs : Nat → Rat) (k j : Nat) (hj : j < n) :
    (bufAfter n xs k)[j]? = some (if j < k then xs (k - (j + 1)) else 0) := by
  induction k generalizing j with
  | zero => exact List.getElem?_replicate_of_lt hj
  | succ k ih =>
    cases j with
    | zero => rfl
    | succ j =>
      rw [bufAfter, getElem?_push_succ, bufAfter_length n (Nat.zero_lt_of_lt hj), if_pos hj, ih j (Nat.lt_of_succ_lt hj)]
      simp only [Nat.add_lt_add_iff_right, Nat.add_sub_add_right]

/-- **Ring-buffer invariant**: after the call of step `k`, slot `j` holds the source value of step `k − j` (zero if the simulation had not
started yet) — for every buffer size, every step and every source sequence. -/
theorem C09_ring_invariant (n : Nat) (xs : Nat → Rat) (k j : Nat) (hj : j < n) :
    (bufAfter n xs (k + 1))[j]? = some (if j ≤ k then xs (k - j) else 0) := by
  rw [getElem?_bufAfter n xs (k + 1) j hj]
  simp only [Nat.lt_succ_iff, Nat.add_sub_add_right]

/-- the value read by an edge with a delay of `d` steps during step `k` (`out = buf[d]`, buffer of `d+1` slots): the source value of
step `k − d`, zero before the start; every edge reads its own slot, so edges with different delays sharing the source do not interact -/
theorem C09_delayed_read (d : Nat) (xs : Nat → Rat) (k : Nat) :
    (bufAfter (d + 1) xs (k + 1))[d]? = some (if d ≤ k then xs (k - d) else 0) :=
  C09_ring_invariant (d + 1) xs k d (Nat.lt_succ_self d)

/-- Witness: if the buffer is pushed twice per step (both Heun evaluations call the function) a delay of 3 steps acts after 1.5 steps. -/
theorem C09_double_push_counterexample :
    let xs : Nat → Rat := fun k => (k : Rat)
    -- three Heun steps = six pushes of the values 0,0,1,1,2,2
    (bufAfter 4 (fun i => xs (i / 2)) 6)[3]? = some 1 ∧ (bufAfter 4 xs 3)[3]? = some 0 := by decide +kernel

/-! ### vectorized sources: one buffer row per unit, read by `index_2d(buffer, source_idx, delays)` -/

/-- the 2-D buffer of a vector-valued source after the calls for steps `0 … k-1`: row `u` is the ring buffer of unit `u` -/
def bufAfterV (n units : Nat) (xs : Nat → Nat → Rat) (k : Nat) : List (List Rat) :=
  (List.range units).map (fun u => bufAfter n (xs u) k)

/-- `buffer[source_idx[i], delays[i]]` -/
def read2d (bufs : List (List Rat)) (src d : Nat) : Option Rat := (bufs[src]?).bind (·[d]?)

/-- **Every edge of a vectorized source reads its own unit at its own delay**: slot `(u, d)` of the 2-D buffer holds the value unit `u`
had `d` steps ago (zero before the start), for every number of units, buffer width, step and source sequence. -/
theorem C09_vector_read (n units : Nat) (xs : Nat → Nat → Rat) (k u d : Nat) (hu : u < units) (hd : d < n) :
    read2d (bufAfterV n units xs (k + 1)) u d = some (if d ≤ k then xs u (k - d) else 0) := by
  unfold read2d bufAfterV
  rw [List.getElem?_map, List.getElem?_range hu]
  simp only [Option.map_some, Option.bind_some]
  exact C09_ring_invariant n (xs u) k d hd

/-- Why the unit index matters: reading the whole column `buffer[:, d]` hands slot `i` the delayed value of unit `i`, which is the source of
edge `i` only if the edges are declared in unit order (two units, edges declared as (1, 0): edge 0 must read unit 1). -/
theorem C09_column_shortcut_counterexample :
    let xs : Nat → Nat → Rat := fun u k => (10 * u + k : Nat)
    read2d (bufAfterV 3 2 xs 4) 1 2 = some 11 ∧ read2d (bufAfterV 3 2 xs 4) 0 2 = some 1 := by decide +kernel

end PyRates.Delay
