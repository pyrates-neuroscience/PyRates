import PyRatesModel.Delay.DDE
import PyRatesModel.Props.C19
/-!
# C10 — delayed terms read the true past of the trajectory

Model: `PyRatesModel/Delay/DDE.lean` (generated function = history reads followed by the body; `_solve_euler` with the history
update after every step) on top of the `DDEHistory` model of C19.

* `C10_prehistory`: whatever was recorded since, a query at or before the start returns the initial state.
* `C10_grid_records`: after `i` Euler steps the history holds exactly the computed states `y_0 … y_i` at the times `0, dt, …, i·dt`
  (invariant `GInv`, preserved by every step: `C10_step_inv`).
* `C10_read_on_grid`, `C10_read_between`, `C10_read_prestart`: a delayed read at step `i` returns component `idx` of `y_{i-m}` for a
  delay of `m` steps, of the initial state when `i·dt - d ≤ 0`, and of the linear interpolant of the two neighbouring computed states
  otherwise.
* `C10_euler_method_of_steps`: for delays that are multiples of the step the whole run equals the explicitly written recurrence
  `y_{i+1} = y_i + dt·f(i·dt, y_i, (y_{i-m})[idx] …)` with constant pre-history, for every number of steps, any body and any growth events.
* `C10_heun_method_of_steps`: the same for `_solve_heun` - predictor and corrector of a step read the same records, so the run equals the
  explicitly written Heun recurrence with the reads of step `i` in both slopes.
* `C10_time_units`: the source scales the step counter by `dt` before subtracting the delay (regenerated table).
PARTIAL: convergence of these schemes to the solution of the delay equation is textbook numerical analysis and is not mechanised;
the adaptive (dopri5) path is tied differentially only.
-/
namespace PyRates.Delay
open PyRates.Hist

theorem vadd_length (a b : Vec) (h : a.length = b.length) : (vadd a b).length = a.length := by
  simp [vadd, h]

theorem vscale_length (c : Rat) (a : Vec) : (vscale c a).length = a.length := by simp [vscale]

/-! ## shape of one update -/

theorem writeRow_shape (h : Hist) (t : Rat) (y : Vec) (hcap : h.n < h.rows.length) :
    (∀ j, j < h.n → (h.writeRow t y).rows[j]? = h.rows[j]?) ∧ (h.writeRow t y).rows[h.n]? = some (some y) ∧
    ∀ (j : Nat) (v : Vec), (h.writeRow t y).rows[j]? = some (some v) → v = y ∨ h.rows[j]? = some (some v) := by
  refine ⟨fun j hj => ?_, ?_, fun j v hv => ?_⟩
  · rw [writeRow_rows h t y j hcap, if_neg (Nat.ne_of_lt hj)]
  · rw [writeRow_rows h t y _ hcap, if_pos rfl]
  · rw [writeRow_rows h t y j hcap] at hv
    split at hv
    · exact .inl (Option.some.inj (Option.some.inj hv)).symm
    · exact .inr hv

theorem update_shape (h h' : Hist) (t : Rat) (y : Vec) (gf : Nat) (hg : 2 ≤ gf) (hw : h.WF)
    (hu : h.update t y gf = .ok h') :
    h'.ts = h.ts ++ [t] ∧ h'.n = h.n + 1 ∧ h'.growable = h.growable ∧ (∀ j, j < h.n → h'.rows[j]? = h.rows[j]?) ∧
    h'.rows[h.n]? = some (some y) ∧ (∀ (j : Nat) (v : Vec), h'.rows[j]? = some (some v) → v = y ∨ h.rows[j]? = some (some v)) := by
  rcases update_cases h h' t y gf hu with ⟨hcap, rfl⟩ | ⟨_, _, rfl⟩
  · exact ⟨rfl, rfl, rfl, writeRow_shape h t y hcap⟩
  · -- the grown buffer holds the rows of `h` below `h.n` and nothing written above
    have hle := hw.2.2.1
    obtain ⟨hold, hnew, hany⟩ := writeRow_shape (h.grow gf) t y (grow_wf h gf hw hg).2
    refine ⟨rfl, rfl, rfl, fun j hj => ?_, hnew, fun j v hv => (hany j v hv).imp_right fun hv' => ?_⟩
    · rw [hold j hj, grow_rows h gf j hle, if_pos hj]
    · rw [grow_rows h gf j hle] at hv'
      split at hv'
      · exact hv'
      · rw [List.getElem?_replicate] at hv'
        split at hv' <;> cases hv'

/-! ## the grid invariant -/

/-- after `i` steps: the history holds the states `all = [y_0, …, y_i]` at the times `0, dt, …, i·dt` -/
structure GInv (dt : Rat) (d : Nat) (i : Nat) (all : List Vec) (h : Hist) : Prop where
  wf : h.WF
  grow : h.growable = true
  len : all.length = i + 1
  n : h.n = i + 1
  ts : ∀ j, j ≤ i → h.ts[j]? = some ((j : Rat) * dt)
  rows : ∀ j, j ≤ i → ∃ v, all[j]? = some v ∧ h.rows[j]? = some (some v)
  dimAll : ∀ v ∈ all, v.length = d
  sorted : StrictSorted h.ts
  dim : h.Dim d

theorem GInv.init (dt : Rat) (y0 : Vec) (cap : Nat) : GInv dt y0.length 0 [y0] (Hist.init y0 0 none cap) := by
  refine ⟨C19_init_wf _ _ _ _, rfl, rfl, rfl, fun j hj => ?_, fun j hj => ?_, by simp, trivial, fun j v hv => ?_⟩
  · obtain rfl : j = 0 := by omega
    simp [Hist.init]
  · obtain rfl : j = 0 := by omega
    exact ⟨y0, rfl, rfl⟩
  · cases j with
    | zero => exact congrArg List.length (Option.some.inj (Option.some.inj hv)).symm
    | succ k =>
      simp only [Hist.init, List.getElem?_cons_succ, List.getElem?_replicate] at hv
      split at hv <;> cases hv

section
variable {dt : Rat} {d i : Nat} {all : List Vec} {h : Hist}

theorem GInv.ts_length (inv : GInv dt d i all h) : h.ts.length = i + 1 :=
  inv.wf.1.trans inv.n

theorem GInv.last (inv : GInv dt d i all h) : h.ts.getLast? = some ((i : Rat) * dt) := by
  rw [List.getLast?_eq_getElem?, inv.ts_length]
  exact inv.ts i (Nat.le_refl _)

end

/-- the invariant is preserved by recording the next state at the next grid time -/
theorem GInv_update (dt : Rat) (hdt : 0 < dt) (d i : Nat) (all : List Vec) (h h' : Hist) (y' : Vec) (gf : Nat) (hg : 2 ≤ gf)
    (inv : GInv dt d i all h) (hy : y'.length = d) (hu : h.update (((i : Rat) + 1) * dt) y' gf = .ok h') :
    GInv dt d (i + 1) (all ++ [y']) h' := by
  obtain ⟨hts, hn, hgr, hold, hnew, hany⟩ := update_shape h h' _ y' gf hg inv.wf hu
  have hl := inv.ts_length
  refine ⟨(C19_update_abs h h' _ y' gf hg inv.wf hu).2, hgr.trans inv.grow, by rw [List.length_append, inv.len]; rfl,
    by rw [hn, inv.n], fun j hj => ?_, fun j hj => ?_, fun v hv => ?_, ?_, fun j v hv => ?_⟩
  · rw [hts]
    rcases Nat.lt_or_eq_of_le hj with hlt | rfl
    · rw [List.getElem?_append_left (by omega)]
      exact inv.ts j (Nat.le_of_lt_succ hlt)
    · rw [List.getElem?_append_right (Nat.le_of_eq hl), hl, Nat.sub_self, Rat.natCast_add]
      rfl
  · rcases Nat.lt_or_eq_of_le hj with hlt | rfl
    · obtain ⟨v, hv1, hv2⟩ := inv.rows j (Nat.le_of_lt_succ hlt)
      refine ⟨v, ?_, ?_⟩
      · rw [List.getElem?_append_left (by rw [inv.len]; exact hlt), hv1]
      · rw [hold j (by rw [inv.n]; exact hlt), hv2]
    · refine ⟨y', ?_, ?_⟩
      · rw [List.getElem?_append_right (Nat.le_of_eq inv.len), inv.len, Nat.sub_self]
        rfl
      · rw [← inv.n]
        exact hnew
  · rcases List.mem_append.mp hv with hv | hv
    · exact inv.dimAll v hv
    · rw [List.mem_singleton.mp hv]; exact hy
  · rw [hts]
    refine sorted_append _ _ inv.sorted fun x hx => ?_
    rw [inv.last] at hx
    cases hx
    -- `i·dt < (i+1)·dt` because `0 < dt`
    grind
  · rcases hany j v hv with rfl | hv'
    · exact hy
    · exact inv.dim j v hv'

/-! ## queries and reads under the invariant -/

section
variable {dt : Rat} {d i : Nat} {all : List Vec} {h : Hist}

theorem GInv.record (inv : GInv dt d i all h) (hdt : 0 < dt) {gf : Nat} (hg : 2 ≤ gf) (y' : Vec) (hy : y'.length = d) :
    ∃ h', h.update (((i : Rat) + 1) * dt) y' gf = .ok h' ∧ GInv dt d (i + 1) (all ++ [y']) h' := by
  obtain ⟨h', hu⟩ := C19_update_ok h (((i : Rat) + 1) * dt) y' gf (Or.inl inv.grow)
  exact ⟨h', hu, GInv_update dt hdt d i all h h' y' gf hg inv hy hu⟩

theorem GInv.row (inv : GInv dt d i all h) (j : Nat) (hj : j ≤ i) :
    ∃ v, all[j]? = some v ∧ h.row j = .ok v := by
  obtain ⟨v, hv1, hv2⟩ := inv.rows j hj
  exact ⟨v, hv1, by simp [Hist.row, hv2]⟩

theorem GInv.ts_get (inv : GInv dt d i all h) (j : Nat) (hj : j < h.ts.length) :
    h.ts[j] = (j : Rat) * dt := by
  have := inv.ts j (by rw [inv.ts_length] at hj; omega)
  rw [List.getElem?_eq_getElem hj] at this
  exact Option.some.inj this

theorem GInv.head (inv : GInv dt d i all h) :
    h.ts.head (ts_ne_nil h inv.wf) = 0 := by
  rw [List.head_eq_getElem, inv.ts_get 0 (List.length_pos_iff.mpr (ts_ne_nil h inv.wf))]
  exact Rat.zero_mul dt

theorem GInv.query_prestart (inv : GInv dt d i all h) (tq : Rat) (ht : tq ≤ 0) :
    ∃ v, all[0]? = some v ∧ h.query tq = .ok v := by
  obtain ⟨v, hv1, hv2⟩ := inv.row 0 (Nat.zero_le _)
  exact ⟨v, hv1, by rw [C19_query_before h inv.wf tq (by rw [inv.head]; exact ht), hv2]⟩

theorem GInv.query_on_grid (inv : GInv dt d i all h) (j : Nat) (hj : j ≤ i) :
    ∃ v, all[j]? = some v ∧ h.query ((j : Rat) * dt) = .ok v := by
  obtain ⟨v, hv1, hv2⟩ := inv.row j hj
  have hjl : j < h.ts.length := by rw [inv.ts_length]; omega
  have := C19_query_at_record h inv.wf inv.sorted d inv.dim j hjl
  rw [inv.ts_get j hjl] at this
  exact ⟨v, hv1, this.trans hv2⟩

theorem GInv.query_between (inv : GInv dt d i all h) (k : Nat) (hk : k + 1 ≤ i)
    (tq : Rat) (h0 : 0 < tq) (h1 : (k : Rat) * dt ≤ tq) (h2 : tq < ((k + 1 : Nat) : Rat) * dt) :
    ∃ a b, all[k]? = some a ∧ all[k + 1]? = some b ∧
      h.query tq = .ok (lerp ((k : Rat) * dt) (((k + 1 : Nat) : Rat) * dt) tq a b) := by
  obtain ⟨a, ha1, ha2⟩ := inv.row k (by omega)
  obtain ⟨b, hb1, hb2⟩ := inv.row (k + 1) hk
  have hk1 : k + 1 < h.ts.length := by rw [inv.ts_length]; omega
  have e0 := inv.ts_get k (by omega)
  have e1 := inv.ts_get (k + 1) hk1
  have hq := C19_query_between h inv.wf inv.sorted tq k hk1 (by rw [e0]; exact h1) (by rw [e1]; exact h2)
    (by rw [inv.head]; exact h0)
  rw [hq, ha2, hb2, e0, e1]
  exact ⟨a, b, ha1, hb1, rfl⟩

theorem readAt_of_query (h : Hist) (tq : Rat) (idx : Nat) (v : Vec) (hq : h.query tq = .ok v) (hidx : idx < v.length) :
    ∃ x, v[idx]? = some x ∧ readAt h tq idx = .ok x :=
  ⟨v[idx], List.getElem?_eq_getElem hidx, by simp [readAt, hq, hidx]⟩

theorem GInv.read (inv : GInv dt d i all h) (j idx : Nat) (hidx : idx < d)
    (tq : Rat) (hq : ∃ v, all[j]? = some v ∧ h.query tq = .ok v) :
    ∃ v x, all[j]? = some v ∧ v[idx]? = some x ∧ readAt h tq idx = .ok x := by
  obtain ⟨v, hv1, hv2⟩ := hq
  obtain ⟨x, hx, hr⟩ := readAt_of_query h tq idx v hv2 (by rw [inv.dimAll v (List.mem_of_getElem? hv1)]; exact hidx)
  exact ⟨v, x, hv1, hx, hr⟩

end

/-! ## delayed reads during a run -/

theorem natCast_sub_mul (i m : Nat) (dt : Rat) (hm : m ≤ i) : (i : Rat) * dt - (m : Rat) * dt = ((i - m : Nat) : Rat) * dt := by
  obtain ⟨k, rfl⟩ := Nat.exists_eq_add_of_le hm
  rw [Nat.add_sub_cancel_left, Rat.natCast_add]
  grind

/-- delay of `m` steps: the read at step `i` is component `idx` of `y_{i-m}`, and of `y_0` while `i < m` -/
theorem C10_read_on_grid (dt : Rat) (hdt : 0 < dt) (d i : Nat) (all : List Vec) (h : Hist) (inv : GInv dt d i all h)
    (m idx : Nat) (hidx : idx < d) :
    ∃ v x, all[i - m]? = some v ∧ v[idx]? = some x ∧ readAt h ((i : Rat) * dt - (m : Rat) * dt) idx = .ok x := by
  apply inv.read _ idx hidx
  by_cases hm : m ≤ i
  · rw [natCast_sub_mul i m dt hm]
    exact inv.query_on_grid (i - m) (Nat.sub_le i m)
  · rw [show i - m = 0 by omega]
    have h3 : (i : Rat) ≤ (m : Rat) := by exact_mod_cast Nat.le_of_not_le hm
    have := Rat.mul_le_mul_of_nonneg_right h3 (Rat.le_of_lt hdt)
    exact inv.query_prestart _ (by grind)

/-- any delay reaching before the start: the initial state -/
theorem C10_read_prestart (dt : Rat) (d i : Nat) (all : List Vec) (h : Hist) (inv : GInv dt d i all h)
    (delay : Rat) (idx : Nat) (hidx : idx < d) (hpre : (i : Rat) * dt - delay ≤ 0) :
    ∃ v x, all[0]? = some v ∧ v[idx]? = some x ∧ readAt h ((i : Rat) * dt - delay) idx = .ok x :=
  inv.read 0 idx hidx _ (inv.query_prestart _ hpre)

/-- a delay that is not a multiple of the step: the linear interpolant of the two neighbouring computed states -/
theorem C10_read_between (dt : Rat) (d i : Nat) (all : List Vec) (h : Hist) (inv : GInv dt d i all h)
    (delay : Rat) (idx k : Nat) (hk : k + 1 ≤ i) (h0 : 0 < (i : Rat) * dt - delay)
    (h1 : (k : Rat) * dt ≤ (i : Rat) * dt - delay) (h2 : (i : Rat) * dt - delay < ((k + 1 : Nat) : Rat) * dt) :
    ∃ a b, all[k]? = some a ∧ all[k + 1]? = some b ∧
      readAt h ((i : Rat) * dt - delay) idx =
        (match (lerp ((k : Rat) * dt) (((k + 1 : Nat) : Rat) * dt) ((i : Rat) * dt - delay) a b)[idx]? with
         | some x => .ok x | none => .error .garbage) := by
  obtain ⟨a, b, ha, hb, hq⟩ := inv.query_between k hk _ h0 h1 h2
  exact ⟨a, b, ha, hb, by unfold readAt; rw [hq]; rfl⟩

/-! ## whole runs for delays on the grid -/

/-- delayed terms whose delays are whole numbers of steps: (state index, number of steps) -/
def gridTerms (dt : Rat) (ms : List (Nat × Nat)) : List PastTerm := ms.map (fun p => ⟨p.1, (p.2 : Rat) * dt⟩)

/-- the reads of the explicitly written scheme: component `idx` of the state `m` steps ago (the initial state before that) -/
def gridReads (all : List Vec) (ms : List (Nat × Nat)) : List Rat :=
  ms.map (fun p => ((all.getD (all.length - 1 - p.2) []).getD p.1 0))

/-- the explicitly written recurrence -/
def gridNext (body : Body) (dt : Rat) (ms : List (Nat × Nat)) (all : List Vec) : Vec :=
  let y := all.getLastD []
  vadd y (vscale dt (body (((all.length - 1 : Nat) : Rat) * dt) y (gridReads all ms)))

def gridRun (body : Body) (dt : Rat) (ms : List (Nat × Nat)) : Nat → List Vec → List Vec
  | 0, all => all
  | n + 1, all => gridRun body dt ms n (all ++ [gridNext body dt ms all])

/-- the explicitly written Heun recurrence for delays on the grid: both slopes use the reads of step `i` -/
def gridNextHeun (body : Body) (dt : Rat) (ms : List (Nat × Nat)) (all : List Vec) : Vec :=
  let y := all.getLastD []
  let t := ((all.length - 1 : Nat) : Rat) * dt
  let rs := gridReads all ms
  let k1 := body t y rs
  let k2 := body t (vadd y (vscale dt k1)) rs
  vadd y (vscale (dt / 2) (vadd k1 k2))

def gridRunHeun (body : Body) (dt : Rat) (ms : List (Nat × Nat)) : Nat → List Vec → List Vec
  | 0, all => all
  | n + 1, all => gridRunHeun body dt ms n (all ++ [gridNextHeun body dt ms all])

section
variable {dt : Rat} {d i : Nat} {all : List Vec} {h : Hist}

theorem GInv.readAll_grid (inv : GInv dt d i all h) (hdt : 0 < dt)
    (ms : List (Nat × Nat)) (hidx : ∀ p ∈ ms, p.1 < d) :
    readAll h ((i : Rat) * dt) (gridTerms dt ms) = .ok (gridReads all ms) := by
  induction ms with
  | nil => rfl
  | cons p rest ih =>
    obtain ⟨v, x, hv, hx, hr⟩ := C10_read_on_grid dt hdt d i all h inv p.2 p.1 (hidx p (List.mem_cons_self ..))
    have ih' := ih (fun q hq => hidx q (List.mem_cons_of_mem _ hq))
    simp only [gridTerms, gridReads, List.map_cons, readAll] at ih' ⊢
    rw [hr, ih', inv.len, Nat.add_sub_cancel]
    simp [List.getD, hv, hx]

theorem GInv.compiled_grid (inv : GInv dt d i all h) (hdt : 0 < dt)
    (ms : List (Nat × Nat)) (hidx : ∀ p ∈ ms, p.1 < d) (body : Body) (y : Vec) :
    compiled body (gridTerms dt ms) (fixedTime true dt i) y h = .ok (body ((i : Rat) * dt) y (gridReads all ms)) := by
  simp only [compiled, fixedTime, if_true, inv.readAll_grid hdt ms hidx]

end

/-- one Euler step keeps the invariant and computes exactly the next state of the explicitly written recurrence -/
theorem C10_step_inv (body : Body) (dt : Rat) (hdt : 0 < dt) (d i : Nat) (all : List Vec) (y : Vec) (h : Hist) (gf : Nat) (hg : 2 ≤ gf)
    (inv : GInv dt d i all h) (hy : all.getLast? = some y)
    (ms : List (Nat × Nat)) (hidx : ∀ p ∈ ms, p.1 < d)
    (hbody : ∀ t (y : Vec) rs, y.length = d → (body t y rs).length = d) :
    ∃ h', eulerStep body (gridTerms dt ms) true dt gf i y h = .ok (gridNext body dt ms all, h') ∧
      GInv dt d (i + 1) (all ++ [gridNext body dt ms all]) h' := by
  have hyd : y.length = d := inv.dimAll y (List.mem_of_getLast? hy)
  have hnext : gridNext body dt ms all = vadd y (vscale dt (body ((i : Rat) * dt) y (gridReads all ms))) := by
    simp only [gridNext, inv.len, Nat.add_sub_cancel, List.getLastD_eq_getLast?, hy, Option.getD_some]
  obtain ⟨h', hu, inv'⟩ := inv.record hdt hg (gridNext body dt ms all)
    (by rw [hnext, vadd_length _ _ (by rw [vscale_length, hbody _ _ _ hyd, hyd]), hyd])
  refine ⟨h', ?_, inv'⟩
  simp only [eulerStep, inv.compiled_grid hdt ms hidx, ← hnext, hu]

/-- one Heun step keeps the invariant and computes the next state of the explicitly written Heun recurrence: the history is read
twice at the same time with the same records, so predictor and corrector see the same delayed values -/
theorem C10_heun_step_inv (body : Body) (dt : Rat) (hdt : 0 < dt) (d i : Nat) (all : List Vec) (y : Vec) (h : Hist) (gf : Nat) (hg : 2 ≤ gf)
    (inv : GInv dt d i all h) (hy : all.getLast? = some y)
    (ms : List (Nat × Nat)) (hidx : ∀ p ∈ ms, p.1 < d)
    (hbody : ∀ t (y : Vec) rs, y.length = d → (body t y rs).length = d) :
    ∃ h', heunStep body (gridTerms dt ms) true dt gf i y h = .ok (gridNextHeun body dt ms all, h') ∧
      GInv dt d (i + 1) (all ++ [gridNextHeun body dt ms all]) h' := by
  have hyd : y.length = d := inv.dimAll y (List.mem_of_getLast? hy)
  have hnext : gridNextHeun body dt ms all =
      vadd y (vscale (dt / 2) (vadd (body ((i : Rat) * dt) y (gridReads all ms))
        (body ((i : Rat) * dt) (vadd y (vscale dt (body ((i : Rat) * dt) y (gridReads all ms)))) (gridReads all ms)))) := by
    simp only [gridNextHeun, inv.len, Nat.add_sub_cancel, List.getLastD_eq_getLast?, hy, Option.getD_some]
  have hk1 := hbody ((i : Rat) * dt) y (gridReads all ms) hyd
  have hk2 := hbody ((i : Rat) * dt) (vadd y (vscale dt (body ((i : Rat) * dt) y (gridReads all ms)))) (gridReads all ms)
    (by rw [vadd_length _ _ (by rw [vscale_length, hk1, hyd]), hyd])
  obtain ⟨h', hu, inv'⟩ := inv.record hdt hg (gridNextHeun body dt ms all)
    (by rw [hnext, vadd_length _ _ (by rw [vscale_length, vadd_length _ _ (hk1.trans hk2.symm), hk1, hyd]), hyd])
  refine ⟨h', ?_, inv'⟩
  simp only [heunStep, inv.compiled_grid hdt ms hidx, ← hnext, hu]

/-- **Method of steps, for any one-step rule.**  If every step taken under the invariant computes `next` of the states so far and keeps the
invariant, then `n` steps produce the `n`-fold recurrence `G` of `next`, and the invariant holds at the end. -/
theorem run_grid (dt : Rat) (d : Nat) (step : Nat → Vec → Hist → Except Err (Vec × Hist)) (next : List Vec → Vec)
    (G : Nat → List Vec → List Vec) (hG0 : ∀ all, G 0 all = all) (hGs : ∀ n all, G (n + 1) all = G n (all ++ [next all]))
    (hstep : ∀ i all y h, GInv dt d i all h → all.getLast? = some y →
      ∃ h', step i y h = .ok (next all, h') ∧ GInv dt d (i + 1) (all ++ [next all]) h')
    (n i : Nat) (pre : List Vec) (y : Vec) (h : Hist) (inv : GInv dt d i (pre ++ [y]) h) :
    ∃ ys yf hf, run step n i y h = .ok (ys, yf, hf) ∧ pre ++ ys ++ [yf] = G n (pre ++ [y]) ∧
      GInv dt d (i + n) (pre ++ ys ++ [yf]) hf := by
  induction n generalizing i pre y h with
  | zero => exact ⟨[], y, h, rfl, by simp [hG0], by simpa using inv⟩
  | succ n ih =>
    obtain ⟨h', hs, inv'⟩ := hstep i _ y h inv (by simp)
    obtain ⟨ys, yf, hf, hr, he, hi⟩ := ih (i + 1) (pre ++ [y]) _ h' inv'
    refine ⟨y :: ys, yf, hf, by simp only [run, hs, hr], ?_, ?_⟩
    · rw [hGs, ← he]; simp
    · rw [show i + (n + 1) = i + 1 + n by omega]; simpa using hi

theorem run_grid_init (dt : Rat) (step : Nat → Vec → Hist → Except Err (Vec × Hist)) (next : List Vec → Vec)
    (G : Nat → List Vec → List Vec) (hG0 : ∀ all, G 0 all = all) (hGs : ∀ n all, G (n + 1) all = G n (all ++ [next all]))
    (y0 : Vec) (hstep : ∀ i all y h, GInv dt y0.length i all h → all.getLast? = some y →
      ∃ h', step i y h = .ok (next all, h') ∧ GInv dt y0.length (i + 1) (all ++ [next all]) h') (cap n : Nat) :
    ∃ ys yf hf, run step n 0 y0 (Hist.init y0 0 none cap) = .ok (ys, yf, hf) ∧ ys ++ [yf] = G n [y0] ∧
      GInv dt y0.length n (ys ++ [yf]) hf := by
  simpa only [List.nil_append, Nat.zero_add] using
    run_grid dt y0.length step next G hG0 hGs hstep n 0 [] y0 _ (GInv.init dt y0 cap)

/-- the Euler run on a fresh history: the explicit recurrence and the invariant at the end -/
theorem euler_run_grid (body : Body) (dt : Rat) (hdt : 0 < dt) (gf : Nat) (hg : 2 ≤ gf) (cap : Nat) (y0 : Vec)
    (ms : List (Nat × Nat)) (hidx : ∀ p ∈ ms, p.1 < y0.length)
    (hbody : ∀ t (y : Vec) rs, y.length = y0.length → (body t y rs).length = y0.length) (n : Nat) :
    ∃ ys yf hf, run (eulerStep body (gridTerms dt ms) true dt gf) n 0 y0 (Hist.init y0 0 none cap) = .ok (ys, yf, hf) ∧
      ys ++ [yf] = gridRun body dt ms n [y0] ∧ GInv dt y0.length n (ys ++ [yf]) hf :=
  run_grid_init dt _ _ (gridRun body dt ms) (fun _ => rfl) (fun _ _ => rfl) y0
    (fun i all y h inv hy => C10_step_inv body dt hdt _ i all y h gf hg inv hy ms hidx hbody) cap n

/-- **Method of steps.**  For every number of steps, every body and every list of delayed terms whose delays are whole numbers of
steps, `_solve_euler` with the history produces exactly the states of the explicitly written recurrence with constant pre-history. -/
theorem C10_euler_method_of_steps (body : Body) (dt : Rat) (hdt : 0 < dt) (gf : Nat) (hg : 2 ≤ gf) (cap : Nat) (y0 : Vec)
    (ms : List (Nat × Nat)) (hidx : ∀ p ∈ ms, p.1 < y0.length)
    (hbody : ∀ t (y : Vec) rs, y.length = y0.length → (body t y rs).length = y0.length) (n : Nat) :
    ∃ ys yf hf, run (eulerStep body (gridTerms dt ms) true dt gf) n 0 y0 (Hist.init y0 0 none cap) = .ok (ys, yf, hf) ∧
      ys ++ [yf] = gridRun body dt ms n [y0] :=
  let ⟨ys, yf, hf, hr, he, _⟩ := euler_run_grid body dt hdt gf hg cap y0 ms hidx hbody n
  ⟨ys, yf, hf, hr, he⟩

/-- the records of the history after the run are the computed states at the grid times -/
theorem C10_grid_records (body : Body) (dt : Rat) (hdt : 0 < dt) (gf : Nat) (hg : 2 ≤ gf) (cap : Nat) (y0 : Vec)
    (ms : List (Nat × Nat)) (hidx : ∀ p ∈ ms, p.1 < y0.length)
    (hbody : ∀ t (y : Vec) rs, y.length = y0.length → (body t y rs).length = y0.length) (n : Nat) :
    ∃ ys yf hf, run (eulerStep body (gridTerms dt ms) true dt gf) n 0 y0 (Hist.init y0 0 none cap) = .ok (ys, yf, hf) ∧
      GInv dt y0.length n (ys ++ [yf]) hf :=
  let ⟨ys, yf, hf, hr, _, hi⟩ := euler_run_grid body dt hdt gf hg cap y0 ms hidx hbody n
  ⟨ys, yf, hf, hr, hi⟩

/-- **Method of steps for Heun.** -/
theorem C10_heun_method_of_steps (body : Body) (dt : Rat) (hdt : 0 < dt) (gf : Nat) (hg : 2 ≤ gf) (cap : Nat) (y0 : Vec)
    (ms : List (Nat × Nat)) (hidx : ∀ p ∈ ms, p.1 < y0.length)
    (hbody : ∀ t (y : Vec) rs, y.length = y0.length → (body t y rs).length = y0.length) (n : Nat) :
    ∃ ys yf hf, run (heunStep body (gridTerms dt ms) true dt gf) n 0 y0 (Hist.init y0 0 none cap) = .ok (ys, yf, hf) ∧
      ys ++ [yf] = gridRunHeun body dt ms n [y0] := by
  obtain ⟨ys, yf, hf, hr, he, _⟩ := run_grid_init dt _ _ (gridRunHeun body dt ms) (fun _ => rfl) (fun _ _ => rfl) y0
    (fun i all y h inv hy => C10_heun_step_inv body dt hdt _ i all y h gf hg inv hy ms hidx hbody) cap n
  exact ⟨ys, yf, hf, hr, he⟩

/-! ## pre-history, whatever has been recorded -/

/-- after any sequence of updates a query at or before the initial time returns the initial state -/
theorem C10_prehistory (y0 : Vec) (t0 : Rat) (us : List (Rat × Vec)) (t : Rat) (ht : t ≤ t0) :
    ∃ h', (Hist.init y0 t0 none Tables.histInitialCapacity).updates Tables.histGrowFactor us = .ok h' ∧ h'.query t = .ok y0 := by
  obtain ⟨h', hu, habs, hw⟩ := C19_impl_updates_abs y0 t0 us
  refine ⟨h', hu, ?_⟩
  -- the first record of `h'.abs` is the first time paired with row 0
  have h0 : h'.abs[0]? = some (t0, some y0) := by rw [habs]; rfl
  rw [Hist.abs, List.getElem?_zip_eq_some, List.getElem?_take, if_pos (show 0 < h'.n from hw.2.1)] at h0
  rw [C19_query_before h' hw t (by rw [List.head_eq_getElem, (List.getElem?_eq_some_iff.mp h0.1).2]; exact ht)]
  simp [Hist.row, h0.2]

/-! ## time units -/

/-- the generated code of fixed-step solvers scales the step counter by `dt` before subtracting the delay, the adaptive one uses `t`
as it is (regenerated from `BaseBackend.add_var_hist`) -/
theorem C10_time_units : Tables.histFixedStepScalesT = true ∧ Tables.histAdaptiveUsesT = true := by decide

theorem C10_fixedTime (dt : Rat) (i : Nat) : fixedTime Tables.histFixedStepScalesT dt i = (i : Rat) * dt := by
  simp [fixedTime, C10_time_units.1]

/-! ## non-vacuity: a concrete delayed model -/

/-- x' = -x(t - 2·dt), dt = 1/2, x(0) = 1 -/
def demoBody : Body := fun _ _ rs => [-(rs.getD 0 0)]

example : (run (eulerStep demoBody (gridTerms (1/2) [(0, 2)]) true (1/2) 2) 5 0 [1] (Hist.init [1] 0 none 2)).toOption.map (fun r => r.1 ++ [r.2.1])
    = some [[1], [1/2], [0], [-1/2], [-3/4], [-3/4]] := by decide +kernel

example : gridRun demoBody (1/2) [(0, 2)] 5 [[1]] = [[1], [1/2], [0], [-1/2], [-3/4], [-3/4]] := by decide +kernel

end PyRates.Delay
