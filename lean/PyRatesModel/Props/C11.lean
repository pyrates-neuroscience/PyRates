import PyRatesModel.Gamma.Chain
/-!
# C11 — distributed delays are unit-gain gamma kernels with the stated mean

Model: `PyRatesModel/Gamma/Chain.lean`.
* `C11_unit_gain`: for every order and every rate `a ≠ 0` the chain is at rest under a constant input exactly when every stage
  equals the input; its output then equals the input (steady-state gain 1).
* `C11_rest_invariant`: a chain at rest stays at rest under Euler steps of any size.
* `C11_ramp_delay`: a ramp `u(t) = c t` passes the chain as the same ramp delayed by `k/a` after `k` stages - by `n/a = d` at the output
  (`C11_mean_delay`): the kernel's mean delay is the edge's delay.
* `C11_order_*`: the order rules of the two code paths; a zero delay gets no chain, a spread of zero the `dde_approx` order.
* `C11_groups_*`: every delay slot lands in exactly the group of its own (order, rate): edges that differ in (d, s) get different kernels.
* `C11_slot_*`: how one delay slot of the chain branch is realised (chain / ring buffer / history access / pass-through); `slotKind_spec`
  reads the decision tree by outcome.
PARTIAL: that the compiled network *is* the explicitly written augmented system is tied differentially (harness/props/c11.py).
-/
namespace PyRates.Gamma
open PyRates.Solver

/-! ## steady state -/

theorem chainDeriv_length (a u : Rat) (zs : List Rat) : (chainDeriv a u zs).length = zs.length := by
  induction zs generalizing u with
  | nil => rfl
  | cons z zs ih => simp [chainDeriv, ih]

/-- unit steady-state gain: all stage derivatives vanish iff every stage equals the (constant) input -/
theorem C11_unit_gain (a u : Rat) (ha : a ≠ 0) (zs : List Rat) :
    (∀ x ∈ chainDeriv a u zs, x = 0) ↔ zs = List.replicate zs.length u := by
  induction zs generalizing u with
  | nil => simp [chainDeriv]
  | cons z zs ih =>
    rw [chainDeriv, List.forall_mem_cons, Rat.mul_eq_zero, or_iff_right ha, Lean.Grind.AddCommGroup.sub_eq_zero_iff, ih z,
      List.length_cons, List.replicate_succ, List.cons.injEq, eq_comm]
    show (z = u ∧ zs = List.replicate zs.length z) ↔ (z = u ∧ zs = List.replicate zs.length u)
    exact and_congr_right (by rintro rfl; rfl)

theorem C11_unit_gain_output (a u : Rat) (ha : a ≠ 0) (zs : List Rat) (h : ∀ x ∈ chainDeriv a u zs, x = 0) :
    chainOut u zs = u := by
  have := (C11_unit_gain a u ha zs).mp h
  unfold chainOut
  rw [this, List.getLastD_eq_getLast?, List.getLast?_replicate]
  split <;> rfl

/-- a chain at rest stays at rest, whatever the step size -/
theorem C11_rest_invariant (a dt u : Rat) (n : Nat) : chainEuler a dt u (List.replicate n u) = List.replicate n u := by
  induction n with
  | zero => rfl
  | succ k ih =>
    show (u + dt * (a * (u - u))) :: chainEuler a dt u (List.replicate k u) = _
    rw [ih, Rat.sub_self, Rat.mul_zero, Rat.mul_zero, Rat.add_zero]
    rfl

/-! ## mean delay: a ramp comes out as the same ramp, delayed -/

/-- stage `k` (1-based) of a chain with rate `a` driven by the ramp `c·t`: the ramp delayed by `k/a` -/
def rampStage (a c t : Rat) (k : Nat) : Rat := c * (t - (k : Rat) / a)

/-- the delayed ramps solve the stage equations: `d/dt z_k = c = a (z_{k-1} - z_k)` for every stage and every time -/
theorem C11_ramp_delay (a c t : Rat) (ha : a ≠ 0) (k : Nat) :
    a * (rampStage a c t k - rampStage a c t (k + 1)) = c := by
  unfold rampStage
  -- field arithmetic; `a ≠ 0` gives `a * a⁻¹ = 1`
  grind

/-- with `a = n/d` the output stage lags the input ramp by exactly the edge's delay `d` -/
theorem C11_mean_delay (n : Nat) (d c t : Rat) (hn : n ≠ 0) (hd : d ≠ 0) :
    rampStage (rate n d) c t n = c * (t - d) := by
  have hn' : (n : Rat) ≠ 0 := by exact_mod_cast hn
  unfold rampStage rate
  -- n / (n / d) = n * (n⁻¹ * d) = d
  rw [if_neg hd, Rat.div_def, Rat.div_def, Rat.inv_mul_rev, Rat.inv_inv, Rat.mul_comm d, ← Rat.mul_assoc,
    Rat.mul_inv_cancel _ hn', Rat.one_mul]

/-! ## order rules -/

theorem C11_order_zero_delay (s : Rat) (k : Nat) : orderScalar 0 s k = 0 := by simp [orderScalar]

theorem C11_order_no_spread (d : Rat) (k : Nat) (hd : d ≠ 0) : orderScalar d 0 k = k := by
  simp [orderScalar, hd]

theorem C11_order_matrix_pos (d s : Rat) (k : Nat) : 1 ≤ orderMatrix d s k := by
  unfold orderMatrix
  split
  · exact Nat.le_max_left _ _
  · split
    · assumption
    · exact Nat.le_refl 1

theorem order_paths_agree (d s : Rat) (k : Nat) (hd : d ≠ 0) (hs : 0 < s) (hk : k < (pyRound ((d / s) * (d / s))).toNat) :
    orderScalar d s k = orderMatrix d s k := by
  rw [orderScalar, orderMatrix, if_neg hd, if_pos hs, if_pos hs, Nat.max_eq_right (Nat.succ_le_of_lt (Nat.zero_lt_of_lt hk))]
  exact if_pos hk

/-- for a positive delay and spread with `(d/s)² ≥ 1/2 + ddeApprox`-ish orders the two code paths agree whenever the spread-derived
order is at least 1 and exceeds `ddeApprox` -/
theorem C11_order_paths_agree (d s : Rat) (k : Nat) (hd : d ≠ 0) (hs : 0 < s)
    (h1 : 1 ≤ (pyRound ((d / s) * (d / s))).toNat) (hk : k < (pyRound ((d / s) * (d / s))).toNat) :
    orderScalar d s k = orderMatrix d s k :=
  order_paths_agree d s k hd hs hk

/-! ## grouping of slots -/

theorem mem_insertSlot (key : Nat × Rat) (slot : Nat) (gs : List ((Nat × Rat) × List Nat)) :
    ∃ ss, (key, ss) ∈ insertSlot key slot gs ∧ slot ∈ ss := by
  induction gs with
  | nil => exact ⟨[slot], .head _, .head _⟩
  | cons g rest ih =>
    obtain ⟨k, ss⟩ := g
    rw [insertSlot]
    split
    · next h => exact ⟨ss ++ [slot], h ▸ .head _, List.mem_append_right _ (.head _)⟩
    · obtain ⟨ss', h1, h2⟩ := ih
      exact ⟨ss', .tail _ h1, h2⟩

theorem insertSlot_keeps (key k : Nat × Rat) (slot s : Nat) (gs : List ((Nat × Rat) × List Nat))
    (h : ∃ ss, (k, ss) ∈ gs ∧ s ∈ ss) : ∃ ss, (k, ss) ∈ insertSlot key slot gs ∧ s ∈ ss := by
  obtain ⟨ss, hm, hs⟩ := h
  induction gs with
  | nil => cases hm
  | cons g rest ih =>
    obtain ⟨k', ss'⟩ := g
    rw [insertSlot]
    split
    · cases hm with
      | head => exact ⟨ss ++ [slot], .head _, List.mem_append_left _ hs⟩
      | tail _ hr => exact ⟨ss, .tail _ hr, hs⟩
    · cases hm with
      | head => exact ⟨ss, .head _, hs⟩
      | tail _ hr =>
        obtain ⟨ss2, h1, h2⟩ := ih hr
        exact ⟨ss2, .tail _ h1, h2⟩

/-- every slot is in the group that carries its own (order, rate) -/
theorem C11_groups_cover (slots : List (Nat × (Nat × Rat))) (slot : Nat) (key : Nat × Rat) (h : (slot, key) ∈ slots) :
    ∃ ss, (key, ss) ∈ groupSlots slots ∧ slot ∈ ss := by
  induction slots with
  | nil => cases h
  | cons x rest ih =>
    cases h with
    | head => exact mem_insertSlot ..
    | tail _ hr => exact insertSlot_keeps _ _ _ _ _ (ih hr)

theorem insertSlot_keys (key : Nat × Rat) (slot : Nat) (gs : List ((Nat × Rat) × List Nat)) :
    (insertSlot key slot gs).map (·.1) = if key ∈ gs.map (·.1) then gs.map (·.1) else gs.map (·.1) ++ [key] := by
  induction gs with
  | nil => rfl
  | cons g rest ih =>
    obtain ⟨k, ss⟩ := g
    rw [insertSlot]
    by_cases h : k = key
    · rw [if_pos h, if_pos (h ▸ List.mem_cons_self)]
      rfl
    · simp only [if_neg h, List.map_cons, ih, List.mem_cons, Ne.symm h, false_or]
      split <;> rfl

/-- groups have pairwise different (order, rate): two slots share a chain only if their orders and rates coincide -/
theorem C11_groups_distinct_keys (slots : List (Nat × (Nat × Rat))) : ((groupSlots slots).map (·.1)).Nodup := by
  induction slots with
  | nil => exact .nil
  | cons x rest ih =>
    rw [groupSlots, insertSlot_keys]
    split
    · exact ih
    · next h => exact (List.nodup_cons.mpr ⟨h, ih⟩).perm (List.perm_append_singleton ..).symm

/-! ## non-vacuity -/
example : orderScalar (1/2) (3/16) 0 = 7 ∧ rate 7 (1/2) = 14 := by decide +kernel
example : chainDeriv 2 5 [5, 5, 5] = [0, 0, 0] ∧ chainOut 5 [5, 5, 5] = 5 := by decide +kernel
example : groupSlots [(0, (2, 4)), (1, (3, 6)), (2, (2, 4))] = [((2, 4), [2, 0]), ((3, 6), [1])] := by decide +kernel

/-! ## how one delay slot is realised (`_add_edge_buffer`, chain branch): chain, ring buffer, history access or pass-through -/

/-- the decision tree of `slotKind` read backwards: what each outcome says about the slot -/
theorem slotKind_spec (adaptive : Bool) (dt d s : Rat) (k : Nat) :
    match slotKind adaptive dt d s k with
    | .chain n a => n = orderScalar d s k ∧ 0 < n ∧ a = rate n d
    | .through => orderScalar d s k = 0 ∧ (d = 0 ∨ (adaptive = false ∧ (pyRound (d / dt)).toNat ≤ 1))
    | .history x => d ≠ 0 ∧ adaptive = true ∧ orderScalar d s k = 0 ∧ x = d
    | .ring m => d ≠ 0 ∧ m = (pyRound (d / dt)).toNat ∧ 2 ≤ m ∧ orderScalar d s k = 0 ∧ adaptive = false := by
  unfold slotKind
  by_cases hn : 0 < orderScalar d s k
  · rw [if_pos hn]
    exact ⟨rfl, hn, rfl⟩
  rw [if_neg hn]
  have h0 := Nat.eq_zero_of_not_pos hn
  by_cases hd : d = 0
  · rw [if_pos hd]
    exact ⟨h0, .inl hd⟩
  rw [if_neg hd]
  by_cases ha : adaptive = true
  · rw [if_pos ha]
    exact ⟨hd, ha, h0, rfl⟩
  rw [if_neg ha]
  have ha := eq_false_of_ne_true ha
  by_cases hk : 1 < (pyRound (d / dt)).toNat
  · rw [if_pos hk]
    exact ⟨hd, rfl, hk, h0, ha⟩
  · rw [if_neg hk]
    exact ⟨h0, .inr ⟨ha, Nat.le_of_not_lt hk⟩⟩

theorem C11_slot_through_iff (adaptive : Bool) (dt d s : Rat) (k : Nat) :
    slotKind adaptive dt d s k = .through ↔
      orderScalar d s k = 0 ∧ (d = 0 ∨ (adaptive = false ∧ (pyRound (d / dt)).toNat ≤ 1)) := by
  have := slotKind_spec adaptive dt d s k
  refine ⟨fun h => by rwa [h] at this, fun ⟨h0, h⟩ => ?_⟩
  -- the conditions of the other three outcomes contradict `h0`, `h`
  split at this
  · omega
  · assumption
  · have hk := h.resolve_left this.1
    simp_all
  · have hk := h.resolve_left this.1
    omega

/-- no delay that the scheme can represent is dropped: a slot with a non-zero delay is delivered undelayed only under a fixed-step solver
and only if the delay rounds to at most one step (which PyRates neglects by design) -/
theorem C11_slot_not_dropped (adaptive : Bool) (dt d s : Rat) (k : Nat) (hd : d ≠ 0)
    (h : adaptive = true ∨ 2 ≤ (pyRound (d / dt)).toNat) : slotKind adaptive dt d s k ≠ .through := by
  intro ht
  rw [C11_slot_through_iff] at ht
  rcases ht with ⟨_, h1 | ⟨ha, hk⟩⟩
  · exact hd h1
  · rcases h with h | h
    · simp [ha] at h
    · omega

theorem C11_slot_ring_steps (adaptive : Bool) (dt d s : Rat) (k m : Nat) (h : slotKind adaptive dt d s k = .ring m) :
    m = (pyRound (d / dt)).toNat ∧ 2 ≤ m ∧ orderScalar d s k = 0 ∧ adaptive = false := by
  have := slotKind_spec adaptive dt d s k
  rw [h] at this
  exact this.2

theorem C11_slot_chain (adaptive : Bool) (dt d s : Rat) (k n : Nat) (a : Rat) (h : slotKind adaptive dt d s k = .chain n a) :
    n = orderScalar d s k ∧ 0 < n ∧ a = rate n d := by
  have := slotKind_spec adaptive dt d s k
  rwa [h] at this

/-- the defect that was repaired: a pure delay of `d = 5 dt` next to distributed delays was passed through -/
theorem C11_slot_old_dropped : slotKindOld (5/100) 0 0 = .through ∧ slotKind false (1/100) (5/100) 0 0 = .ring 5 := by
  decide +kernel

example : slotKind false (1/8) (1/2) (1/4) 0 = .chain 4 8 := by decide +kernel
example : slotKind true (1/8) (1/2) 0 0 = .history (1/2) := by decide +kernel
example : slotKind false (1/8) (1/8) 0 0 = .through := by decide +kernel
example : slotKind false (1/8) (1/2) 0 3 = .chain 3 6 := by decide +kernel

end PyRates.Gamma
