import Mathlib.Analysis.SpecialFunctions.ExpDeriv
import PyRatesModel.Analysis.DiffSound
import PyRatesModel.Net.Jac
/-!
# C12 — get_jacobian_func returns the derivative of get_run_func

* `C12_diff_sound` (Analysis/DiffSound.lean, Mathlib): the formal derivative used by the model is the derivative, for every expression,
  environment and variable (named unary functions under the hypothesis that `f'` is the derivative of `f`).
* the model's Jacobian table (`Net.jacobian`) is keyed by (row path, column path) - the same addressing as the state layout of C01 -
  so "in the same state ordering" is a statement about the layout only.
* `C12_subst_eval`, `C12_sumExprs_eval`: inlining algebraic intermediates and summing the sources of an input variable is composition -
  the closed right-hand side that is differentiated denotes the vector field of the specification.
* polynomial corollary: without named functions the hypothesis on `f'` is vacuous.
-/
namespace PyRates.Net

/-- expressions without named functions -/
def Polynomial : Expr → Prop
  | .num _ | .var _ => True
  | .add a b | .sub a b | .mul a b => Polynomial a ∧ Polynomial b
  | .neg a | .pow a _ => Polynomial a
  | .call1 _ _ | .call2 _ _ _ => False

theorem Polynomial.unary {e : Expr} (h : Polynomial e) : Unary e := by
  induction e with
  | num q => trivial
  | var y => trivial
  | add a b iha ihb | sub a b iha ihb | mul a b iha ihb => exact ⟨iha h.1, ihb h.2⟩
  | neg a ih | pow a k ih => exact ih h
  | call1 f a ih | call2 f a b _ _ => exact h.elim

/-- value of a polynomial expression does not depend on the interpretation of named functions -/
theorem evalR_poly (I J : String → ℝ → ℝ) (ρ : String → ℝ) (e : Expr) (h : Polynomial e) : evalR I ρ e = evalR J ρ e := by
  induction e with
  | num q => rfl
  | var y => rfl
  | add a b iha ihb | sub a b iha ihb | mul a b iha ihb => simp only [evalR]; rw [iha h.1, ihb h.2]
  | neg a ih | pow a k ih => simp only [evalR]; rw [ih h]
  | call1 f a ih | call2 f a b _ _ => exact h.elim

theorem D_poly (x : String) (e : Expr) (h : Polynomial e) : Polynomial (D x e) := by
  induction e with
  | num q => trivial
  | var y => simp only [D]; split <;> trivial
  | add a b iha ihb | sub a b iha ihb => exact ⟨iha h.1, ihb h.2⟩
  | mul a b iha ihb => exact ⟨⟨iha h.1, h.2⟩, ⟨h.1, ihb h.2⟩⟩
  | neg a ih => exact ih h
  | pow a k ih => simp only [D]; split; trivial; exact ⟨⟨trivial, h⟩, ih h⟩
  | call1 f a ih | call2 f a b _ _ => exact h.elim

/-- **Polynomial models: unconditional.**  For expressions built from numbers, variables, `+ - *`, unary minus and integer powers the formal
derivative is the derivative, for every environment and every variable - no hypothesis at all. -/
theorem C12_diff_sound_polynomial (ρ : String → ℝ) (x : String) (e : Expr) (h : Polynomial e) :
    HasDerivAt (fun v => evalR (fun _ _ => 0) (Function.update ρ x v) e) (evalR (fun _ _ => 0) ρ (D x e)) (ρ x) := by
  -- instantiate the general theorem with the exponential for every name: exp' = exp, so the hypothesis holds
  have key := C12_diff_sound (fun _ => Real.exp) (fun _ a => Real.hasDerivAt_exp a) ρ x e h.unary
  have e1 : (fun v => evalR (fun _ _ => 0) (Function.update ρ x v) e) = (fun v => evalR (fun _ => Real.exp) (Function.update ρ x v) e) := by
    funext v; exact evalR_poly _ _ _ e h
  rw [e1, evalR_poly (fun _ _ => 0) (fun _ => Real.exp) ρ (D x e) (D_poly x e h)]
  exact key

/-! ## inlining of algebraic intermediates -/

/-- inlining is composition: the value of an expression whose variables were replaced by closed expressions is the value of the
expression in the environment that binds every variable to the value of its closed expression -/
theorem C12_subst_eval (I : Interp) (ρ : String → Rat) (σ : String → Expr) (e : Expr) :
    eval I ρ (substAll σ e) = eval I (fun x => eval I ρ (σ x)) e := by
  induction e with
  | num q => rfl
  | var x => rfl
  | add a b iha ihb | sub a b iha ihb | mul a b iha ihb | call2 f a b iha ihb => simp only [substAll, eval, iha, ihb]
  | neg a ih | pow a k ih | call1 f a ih => simp only [substAll, eval, ih]

/-- the closed expression of an input variable is the sum of the closed expressions of its sources -/
theorem C12_sumExprs_eval (I : Interp) (ρ : String → Rat) (es : List Expr) :
    eval I ρ (sumExprs es) = (es.map (eval I ρ)).sum := by
  induction es with
  | nil => rfl
  | cons e rest ih =>
    cases rest with
    | nil => simp [sumExprs]
    | cons e2 r2 =>
      simp only [sumExprs, eval, List.map_cons, List.sum_cons] at ih ⊢
      rw [ih]

end PyRates.Net
