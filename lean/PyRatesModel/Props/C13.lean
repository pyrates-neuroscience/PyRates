import PyRatesModel.Generated.Tables
/-!
# C13 — results do not depend on what the process did before

Generic model of the module-level caches (`OperatorTemplate.cache`, `template_cache`, `_compiled_module_cache`, `_sympify_cache`):
`lookupOrCompute` returns the cached value for the request's key or computes and stores it.  A cache is *transparent* when, after any
history of requests, every request gets exactly what a fresh process would compute for it.
-/
namespace PyRates.Caches

variable {Req K V : Type} [DecidableEq K]

/-- the cache as an association list -/
abbrev Cache (K V : Type) := List (K × V)

def find (c : Cache K V) (k : K) : Option V := (List.find? (fun kv => decide (kv.1 = k)) c).map (·.2)

/-- one cached call -/
def lookupOrCompute (key : Req → K) (compute : Req → V) (c : Cache K V) (r : Req) : Cache K V × V :=
  match find c (key r) with
  | some v => (c, v)
  | none => (c ++ [(key r, compute r)], compute r)

/-- run a history of requests, returning the final cache and the result of the last request -/
def runHistory (key : Req → K) (compute : Req → V) : Cache K V → List Req → Cache K V
  | c, [] => c
  | c, r :: rest => runHistory key compute (lookupOrCompute key compute c r).1 rest

/-- every entry of the cache is the value computed for some request with that key -/
def Sound (key : Req → K) (compute : Req → V) (c : Cache K V) : Prop :=
  ∀ kv ∈ c, ∃ r, key r = kv.1 ∧ compute r = kv.2

theorem find_mem (c : Cache K V) (k : K) (v : V) (h : find c k = some v) : (k, v) ∈ c := by
  obtain ⟨kv, hf, rfl⟩ := Option.map_eq_some_iff.mp h
  have hk := List.find?_some hf
  obtain rfl : kv.1 = k := of_decide_eq_true hk
  exact List.mem_of_find?_eq_some hf

theorem sound_step (key : Req → K) (compute : Req → V) (c : Cache K V) (r : Req) (hs : Sound key compute c) :
    Sound key compute (lookupOrCompute key compute c r).1 := by
  unfold lookupOrCompute
  split
  · exact hs
  · intro kv hkv
    rcases List.mem_append.mp hkv with h | h
    · exact hs kv h
    · cases List.mem_singleton.mp h
      exact ⟨r, rfl, rfl⟩

theorem sound_history (key : Req → K) (compute : Req → V) (c : Cache K V) (h : List Req) (hs : Sound key compute c) :
    Sound key compute (runHistory key compute c h) := by
  induction h generalizing c with
  | nil => exact hs
  | cons r rest ih => exact ih _ (sound_step key compute c r hs)

/-- **Transparency.**  If the key determines the computed value, then after *any* history of requests every request is answered with
exactly the value a fresh process would compute. -/
theorem C13_cache_transparent (key : Req → K) (compute : Req → V)
    (hdet : ∀ r₁ r₂, key r₁ = key r₂ → compute r₁ = compute r₂) (h : List Req) (r : Req) :
    (lookupOrCompute key compute (runHistory key compute [] h) r).2 = compute r := by
  have hs := sound_history key compute [] h (fun _ hkv => nomatch hkv)
  unfold lookupOrCompute
  split
  · next v hf =>
    obtain ⟨r', hk, hv⟩ := hs _ (find_mem _ _ _ hf)
    exact hv.symm.trans (hdet r' r hk)
  · rfl

/-- an operator definition as the cache sees it -/
structure OpDef where
  name : String
  equations : List String
  variables : List (String × String)
deriving DecidableEq, Repr

/-- the operator cache of the current source: keyed by the whole definition, hence transparent for every history -/
theorem C13_operator_cache_transparent (h : List OpDef) (r : OpDef) :
    (lookupOrCompute (fun d : OpDef => d) (fun d : OpDef => d) (runHistory (fun d : OpDef => d) (fun d => d) [] h) r).2 = r :=
  C13_cache_transparent (fun d : OpDef => d) (fun d => d) (fun _ _ h => h) h r

/-- the key of `OperatorTemplate.cache` in the current source mentions the name, the equations and the variable definitions, and
`CircuitTemplate.apply` resets the per-circuit IR caches first (both read from the source by the table extractor) -/
theorem C13_source_cache_discipline :
    Tables.opCacheKeyIncludesDefinition = true ∧ Tables.irCachesResetAtApply = true := by decide

/-- Witness (pre-fix code): keyed by the name only, a second operator called `op` receives the first one's equations. -/
theorem C13_name_keyed_counterexample :
    let a : OpDef := ⟨"op", ["x' = -x"], []⟩
    let b : OpDef := ⟨"op", ["x' = -2*x"], []⟩
    (lookupOrCompute (fun d : OpDef => d.name) (fun d => d) (runHistory (fun d : OpDef => d.name) (fun d => d) [] [a]) b).2 = a := by
  decide +kernel

/-- counters that are reset at the start of a compilation produce labels that depend on that compilation's requests only -/
def labelsFrom (start : Nat) (n : Nat) : List String := (List.range n).map (fun i => s!"in_edge_{start + i}")

theorem C13_counter_reset (earlier n : Nat) : labelsFrom 0 n = labelsFrom (earlier - earlier) n := by rw [Nat.sub_self]

end PyRates.Caches
