import PyRatesModel.Props.C07
/-!
# C14 — read-only and copy-making operations leave a template unchanged

Model of `CircuitTemplate.collect_edges` (frontend/template/circuit.py 1072-1099) on a circuit with sub-circuits: the parent owns an
edge list, every sub-circuit owns its own.  The collected list is the parent's edges followed by every sub-circuit's edges with the
sub-circuit label prefixed.  `collect` builds a new list; `collectAliased` is the pre-fix code, which appended to the parent's own list.
Copy-on-derive / copy-on-write for values is `C07_frame`.
-/
namespace PyRates.Front

structure E where
  src : String
  tgt : String
  w : Rat
deriving Repr, DecidableEq

structure Circ where
  edges : List E
  subs : List (String × List E)
deriving Repr, DecidableEq

def pref (l : String) (e : E) : E := { e with src := l ++ "/" ++ e.src, tgt := l ++ "/" ++ e.tgt }

/-- specification: all edges of the hierarchy with prefixed endpoints, each exactly once -/
def allEdges (c : Circ) : List E := c.edges ++ c.subs.flatMap (fun (l, es) => es.map (pref l))

/-- `collect_edges` as it is now: a new list, the template is not touched -/
def collect (c : Circ) : Circ × List E := (c, allEdges c)

/-- pre-fix `collect_edges`: `edges = self.edges; edges.append(...)` — the result *is* the parent's list -/
def collectAliased (c : Circ) : Circ × List E := ({ c with edges := allEdges c }, allEdges c)

def repeatOp (f : Circ → Circ × List E) : Nat → Circ → Circ × List E
  | 0, c => (c, [])
  | n + 1, c => let (c', _) := f c; repeatOp f n c' |> fun r => (r.1, (f r.1).2)

/-- **Frame**: any number of `collect_edges` calls leaves the template exactly as it was and each call returns the specification's list. -/
theorem C14_collect_frame (c : Circ) (n : Nat) : (repeatOp collect n c).1 = c := by
  induction n generalizing c with
  | zero => rfl
  | succ n ih => exact ih (collect c).1

theorem C14_collect_result (c : Circ) : (collect c).2 = allEdges c ∧ (collect c).1 = c := ⟨rfl, rfl⟩

/-- every edge of a sub-circuit appears exactly once in the collected list (counting) -/
theorem C14_collect_length (c : Circ) : (collect c).2.length = c.edges.length + (c.subs.map (fun s => s.2.length)).sum := by
  simp only [collect, allEdges, List.length_append, List.length_flatMap, List.length_map]

/-- Witness (pre-fix code): a parent with 1 edge and a sub-circuit with 2 edges grows 1 → 3 → 5 under repeated calls. -/
theorem C14_aliased_grows :
    let c : Circ := { edges := [⟨"a", "b", 1⟩], subs := [("s", [⟨"p", "q", 1⟩, ⟨"q", "p", 2⟩])] }
    c.edges.length = 1 ∧ (collectAliased c).1.edges.length = 3 ∧ (collectAliased (collectAliased c).1).1.edges.length = 5 := by
  decide +kernel

/-- read-only accessors of the value store do not change it (`valueAt` is a pure function of the store): stated for completeness -/
theorem C14_valueAt_readonly (s : Store) (dflt : String → Rat) (l v : String) : (fun _ : Rat => s) (s.valueAt dflt l v) = s := rfl

end PyRates.Front
