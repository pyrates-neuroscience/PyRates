import PyRatesModel.Lemmas.Replace
import PyRatesModel.Generated.Tables
/-!
# C15 (string part) — equation edits change exactly the whole-identifier occurrences

Model: `PyRatesModel/Str/Replace.lean` (`parser.replace`, the function behind every `replace` / `remove` equation edit and
behind the input-rewriting of `CircuitIR._collect_ops`).
-/
namespace PyRates.Str

section
variable (A term repl : S)

theorem loop_eq_spec (hterm : term ≠ []) (hsep : ∀ c ∈ term, A.contains c = false) :
    ∀ (fuel : Nat) (prev : Option Char) (eq acc : S), eq.length < fuel →
      replaceLoop A term repl fuel prev eq acc = acc ++ spec A term repl 0 (sepOk A prev) eq := by
  intro fuel
  induction fuel with
  | zero => intro prev eq acc h; omega
  | succ fuel ih =>
    intro prev eq acc hfuel
    cases hf : find term eq with
    | none => rw [replaceLoop, hf, spec_absent A term repl prev eq (find_none term eq hf)]
    | some idx =>
      obtain ⟨p, rest, rfl, rfl, hno⟩ := find_some term eq idx hf
      -- the loop hands on the last character of `term`, the specification `false`: it is no separator
      have hlast : sepOk A term.getLast? = false := by
        rw [List.getLast?_eq_some_getLast hterm]
        exact hsep _ (List.getLast_mem hterm)
      have hrest : rest.length < fuel := by
        have := List.length_pos_iff.mpr hterm
        simp at hfuel
        omega
      rw [replaceLoop_occurrence A term repl hterm fuel prev p rest acc hf, ih _ _ _ hrest, hlast,
        spec_copy_prefix A term repl prev p _ hno, spec_occurrence A term repl hterm hsep]
      simp only [List.append_assoc]

/-- **`replace` is whole-occurrence substitution** for every equation string, every non-empty term made of non-separator
characters and every replacement: exactly the occurrences delimited on both sides by one of the allowed signs (or a border of
the string) are substituted; everything else is copied unchanged. -/
theorem C15_replace_eq_spec (eq : S) (hterm : term ≠ []) (hsep : ∀ c ∈ term, A.contains c = false) :
    replace A eq term repl = spec A term repl 0 true eq := by
  rw [replace, if_neg hterm, loop_eq_spec A term repl hterm hsep _ none eq [] (Nat.lt_succ_self _)]
  rfl

end

/-- the characters Python identifiers are made of (ASCII letters, digits, underscore) -/
def idChars : S := "abcdefghijklmnopqrstuvwxyzABCDEFGHIJKLMNOPQRSTUVWXYZ0123456789_".toList

/-- the allowed follow-up signs found in the current source of `replace` -/
def A0 : S := Tables.replaceAllowedFollowOps.toList

theorem idChars_alnum : ∀ c ∈ idChars, (c.isAlphanum || c == '_') = true := by
  unfold idChars
  -- a literal is `String.ofList` of its characters by definition, so this reads them off; left to evaluate `toList`,
  -- the kernel would encode the literal to UTF-8 and decode it again, which costs more than all the comparisons
  rw [String.toList_ofList]
  decide +kernel

theorem A0_not_alnum : ∀ c ∈ A0, (c.isAlphanum || c == '_') = false := by
  unfold A0 Tables.replaceAllowedFollowOps
  rw [String.toList_ofList]
  decide +kernel

/-- no identifier character is among the allowed follow-up signs of the current source, … -/
theorem C15_idchars_not_separators : ∀ c ∈ idChars, A0.contains c = false := by
  intro c hc
  rw [← Bool.not_eq_true, List.contains_iff_mem]
  intro hA
  have := A0_not_alnum c hA
  rw [idChars_alnum c hc] at this
  cases this

/-- … and every sign the equation language puts next to an identifier is (arithmetic, comparison, brackets, comma, blank,
index dot, and the derivative mark `'`). -/
theorem C15_separators_present : ∀ c ∈ "+-*/^=<>()[],.: '".toList, A0.contains c = true := by
  unfold A0 Tables.replaceAllowedFollowOps
  repeat rw [String.toList_ofList]
  decide +kernel

/-- **Whole-identifier replacement in the current source.**  For every equation and every identifier `term`, `replace`
substitutes exactly the occurrences of `term` that are delimited by allowed signs / string borders. -/
theorem C15_replace_identifier (eq term repl : S) (hne : term ≠ []) (hid : ∀ c ∈ term, c ∈ idChars) :
    replace A0 eq term repl = spec A0 term repl 0 true eq :=
  C15_replace_eq_spec A0 term repl eq hne (fun c hc => C15_idchars_not_separators c (hid c hc))

/-- never a part of a longer identifier: inside a run of identifier characters that is preceded by an identifier character
nothing is replaced (this is `spec_copy_run`, restated for the source's sign set) -/
theorem C15_longer_identifier_untouched (term repl run rest : S) (hrun : ∀ c ∈ run, c ∈ idChars) :
    spec A0 term repl 0 false (run ++ rest) = run ++ spec A0 term repl 0 false rest :=
  spec_copy_run A0 term repl run rest (fun c hc => C15_idchars_not_separators c (hrun c hc))

/-- for any sign set and any term: the loop finds nothing and returns its input -/
theorem replace_absent (A eq term repl : S) (habs : ∀ j, pre term (eq.drop j) = false) : replace A eq term repl = eq := by
  have hne : term ≠ [] := by
    rintro rfl
    exact Bool.noConfusion ((pre_nil _).symm.trans (habs 0))
  rw [replace, if_neg hne, replaceLoop]
  cases hf : find term eq with
  | none => rfl
  | some i =>
    obtain ⟨p, rest, rfl, rfl, -⟩ := find_some term eq i hf
    have := habs p.length
    rw [List.drop_left, pre_append] at this
    cases this

/-- an equation in which `term` does not occur at all is returned unchanged -/
theorem C15_replace_absent (eq term repl : S) (hne : term ≠ []) (hid : ∀ c ∈ term, c ∈ idChars)
    (habs : ∀ j, pre term (eq.drop j) = false) : replace A0 eq term repl = eq :=
  replace_absent A0 eq term repl habs

/-- Non-vacuity / regression witnesses (identifiers containing one another). -/
example : replace A0 "x = r + rr*r_in - r".toList "r".toList "Q".toList = "x = Q + rr*r_in - Q".toList := by
  unfold A0 Tables.replaceAllowedFollowOps
  repeat rw [String.toList_ofList]
  decide +kernel
example : replace A0 "rr + 1".toList "r".toList "Q".toList = "rr + 1".toList := by
  unfold A0 Tables.replaceAllowedFollowOps
  repeat rw [String.toList_ofList]
  decide +kernel
example : replace A0 "m_in2 = m_in + m_in2*in".toList "m_in".toList "(a+b)".toList = "m_in2 = (a+b) + m_in2*in".toList := by
  unfold A0 Tables.replaceAllowedFollowOps
  repeat rw [String.toList_ofList]
  decide +kernel
example : replace A0 "x' = -x + xx".toList "x".toList "v".toList = "v' = -v + xx".toList := by
  unfold A0 Tables.replaceAllowedFollowOps
  repeat rw [String.toList_ofList]
  decide +kernel
example : replace A0 "r".toList "r".toList "Q".toList = "Q".toList := by decide +kernel

end PyRates.Str
