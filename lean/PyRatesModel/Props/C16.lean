import PyRatesModel.Pop.Matrix
/-!
# C16 — Population/Connectivity equals the explicit node-and-edge network

* `C16_matvec_explicit`: for every weight matrix (any shape, zeros anywhere, signed entries) and every source vector, each target
  unit receives under `W @ x` exactly what it receives in the network with one scalar edge per non-zero entry of its row.
* `C16_wsum_explicit`: the same with a coupling function evaluated per (target, source) pair.
* `C16_global_explicit`: a scalar weight `w` delivers `w·Σ_j x_j` to every target = the all-to-all network with weight `w`.
PARTIAL: per-unit parameters, the compilation of populations and the delay options are tied differentially (harness/props/c16.py)
against the Lean trajectory of the explicitly written network.
-/
namespace PyRates.Pop

/-- summing over the non-zero entries only (the explicit edges) is the full weighted sum of the row -/
theorem C16_row (h : Rat → Rat) (row : List Rat) (x : Vec) :
    received h row x = (List.zipWith (fun w xj => w * h xj) row x).sum := by
  unfold received explicitEdges
  induction row generalizing x with
  | nil => rfl
  | cons w r ih =>
    cases x with
    | nil => rfl
    | cons a q =>
      rw [List.zip_cons_cons, List.zipWith_cons_cons, List.sum_cons, ← ih q]
      by_cases hw : w = 0
      · rw [List.filter_cons_of_neg (by simpa using hw), hw, Rat.zero_mul, Rat.zero_add]
      · rw [List.filter_cons_of_pos (by simpa using hw), List.map_cons, List.sum_cons]

/-- **A weight matrix means the explicit network**: `(W @ x)[i]` is what target `i` receives over the scalar edges of the non-zero
entries of row `i`, for every matrix and every source vector. -/
theorem C16_matvec_explicit (W : Mat) (x : Vec) : matvec W x = W.map (fun row => received (fun v => v) row x) := by
  unfold matvec dot
  apply List.map_congr_left
  intro row _
  rw [C16_row]

/-- the same with a coupling function evaluated per (target, source) pair; `y` holds the post-synaptic values of the targets -/
theorem C16_wsum_explicit (g : Rat → Rat → Rat) (W : Mat) (x y : Vec) :
    wsum g W x y = List.zipWith (fun row yi => received (fun v => g v yi) row x) W y := by
  unfold wsum
  congr 1
  funext row yi
  rw [C16_row]

/-- a scalar weight: every one of the `n` targets receives `w·Σ_j x_j`, which is what it receives in the all-to-all network with
weight `w` -/
theorem C16_global_explicit (w : Rat) (x : Vec) (n : Nat) : globalCoupling w x n = List.replicate n (receivedGlobal w x) := by
  unfold globalCoupling receivedGlobal
  congr 1
  induction x with
  | nil => simp
  | cons a r ih => simp [Rat.mul_add, ih]

/-- zero entries create no edge -/
theorem C16_no_edge_for_zero (row : List Rat) (x : Vec) : ∀ p ∈ explicitEdges row x, p.1 ≠ 0 :=
  fun _ hp => by simpa using (List.mem_filter.mp hp).2

/-- every non-zero entry creates its edge (with the source unit of its column) -/
theorem C16_edge_for_nonzero (row : List Rat) (x : Vec) (p : Rat × Rat) (hp : p ∈ row.zip x) (hnz : p.1 ≠ 0) :
    p ∈ explicitEdges row x :=
  List.mem_filter.mpr ⟨hp, by simpa using hnz⟩

example : matvec [[0, 2, -1], [1, 0, 0]] [3, 5, 7] = [3, 3] ∧ explicitEdges [0, 2, -1] [3, 5, 7] = [(2, 5), (-1, 7)]
    ∧ received (fun v => v) [0, 2, -1] [3, 5, 7] = 3 := by decide +kernel

end PyRates.Pop
