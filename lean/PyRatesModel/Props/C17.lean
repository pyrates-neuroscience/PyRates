import PyRatesModel.Sweep.Grid
import PyRatesModel.Lemmas.List
/-!
# C17 — a parameter sweep equals running each parameter set on its own

* **Uncoupled copies** (`C17_euler_blocks`, `C17_heun_blocks`, `C17_iter_blocks`, `C17_iter_heun_blocks`): integrating the concatenated state of copies that are
  not connected to one another gives, block by block, exactly what integrating each copy alone gives - for every number of copies,
  block sizes, step counts, Euler and Heun.
* **The grid** (`C17_zip_row`, `C17_mesh_mem`, `C17_mesh_length`, `C17_mesh_nodup`): row `i` of a linear grid holds the i-th value of every
  key; a permuted grid contains every combination of the listed values, exactly `∏ nᵢ` rows, each once when the values are distinct.
* **Targets** (`C17_targets`): a grid key addresses every (node, variable) pair of the cross product it lists.
PARTIAL: that the network `grid_search` builds *is* an uncoupled concatenation of the adapted circuits, and that labels, table and
columns line up, is tied differentially (harness/props/c17.py): every column block is compared exactly with the Lean trajectory of the
separately adapted circuit and with a separate run of the real code.
-/
namespace PyRates.Sweep
open PyRates.Solver

/-! ## grid -/

theorem C17_zip_row (vals : List (List Rat)) (n i : Nat) (hi : i < n) :
    (zipRows vals n)[i]? = some (vals.map (fun v => v.getD i 0)) := by
  simp only [zipRows, List.getElem?_map, List.getElem?_range hi, Option.map_some]

theorem C17_zip_length (vals : List (List Rat)) (n : Nat) : (zipRows vals n).length = n := by
  simp only [zipRows, List.length_map, List.length_range]

/-- a row is a combination: entry j is taken from list j -/
def IsCombo : Row → List (List Rat) → Prop
  | [], [] => True
  | x :: r, v :: vs => x ∈ v ∧ IsCombo r vs
  | _, _ => False

theorem mem_cart (vals : List (List Rat)) (r : Row) : r ∈ cart vals ↔ IsCombo r vals := by
  induction vals generalizing r with
  | nil => cases r <;> simp [cart, IsCombo]
  | cons v vs ih =>
    cases r with
    | nil => simp [cart, IsCombo]
    | cons x r =>
      simp only [cart, List.mem_flatMap, List.mem_map, IsCombo]
      constructor
      · rintro ⟨_, ha, _, hb, ⟨⟩⟩
        exact ⟨ha, (ih _).mp hb⟩
      · rintro ⟨hx, hr⟩
        exact ⟨x, hx, r, (ih r).mpr hr, rfl⟩

theorem cart_length (vals : List (List Rat)) : (cart vals).length = (vals.map List.length).prod := by
  induction vals with
  | nil => rfl
  | cons v vs ih => simp [cart, List.length_flatMap, ih, List.map_const', List.sum_replicate_nat]

theorem cart_nodup (vals : List (List Rat)) (h : ∀ v ∈ vals, v.Nodup) : (cart vals).Nodup := by
  induction vals with
  | nil => simp [cart]
  | cons v vs ih =>
    have hvs := ih fun w hw => h w (List.mem_cons_of_mem v hw)
    simp only [cart, List.Nodup, List.pairwise_flatMap, List.pairwise_map, List.forall_mem_map]
    -- rows with the same head differ in their tails (`hvs`), rows with different heads differ (`h v`)
    exact ⟨fun a _ => hvs.imp fun hne e => hne (List.cons.inj e).2,
      (h v List.mem_cons_self).imp fun hne _ _ _ _ e => hne (List.cons.inj e).1⟩

/-- numpy's swap of the first two axes only reorders the rows: the two outer loops of `cart` change places -/
theorem meshRows_perm : ∀ vals, (meshRows vals).Perm (cart vals)
  | [] => .refl _
  | [v] => by simp [meshRows, cart, swap01, List.map_flatMap]
  | v :: w :: vs => by
    simp only [meshRows, cart, swap01, List.map_flatMap, List.map_map]
    exact flatMap_comm_perm w v _

/-- a permuted grid contains exactly the combinations of the listed values -/
theorem C17_mesh_mem (vals : List (List Rat)) (r : Row) : r ∈ meshRows vals ↔ IsCombo r vals :=
  (meshRows_perm vals).mem_iff.trans (mem_cart vals r)

/-- a permuted grid has `∏ nᵢ` rows -/
theorem C17_mesh_length (vals : List (List Rat)) : (meshRows vals).length = (vals.map List.length).prod :=
  (meshRows_perm vals).length_eq.trans (cart_length vals)

/-- every combination occurs once when the listed values are distinct -/
theorem C17_mesh_nodup (vals : List (List Rat)) (h : ∀ v ∈ vals, v.Nodup) : (meshRows vals).Nodup :=
  (meshRows_perm vals).nodup_iff.mpr (cart_nodup vals h)

/-- a grid key addresses every listed variable on every listed node (or edge) -/
theorem C17_targets (nodes vars : List String) (n v : String) : (n, v) ∈ targets nodes vars ↔ n ∈ nodes ∧ v ∈ vars := by
  simp [targets]

/-! ## uncoupled copies -/

/-- the blocks have the sizes `dims` -/
def Sized : List Vec → List Nat → Prop
  | [], [] => True
  | y :: ys, d :: ds => y.length = d ∧ Sized ys ds
  | _, _ => False

theorem unflat_cons {y : Vec} {d : Nat} (h : y.length = d) (ds : List Nat) (r : Vec) :
    unflat (d :: ds) (y ++ r) = y :: unflat ds r := by
  rw [unflat, List.take_left' h, List.drop_left' h]

theorem unflat_flat (ys : List Vec) (dims : List Nat) (h : Sized ys dims) : unflat dims (flat ys) = ys := by
  induction ys generalizing dims with
  | nil =>
    cases dims with
    | nil => rfl
    | cons => exact h.elim
  | cons y ys ih =>
    cases dims with
    | nil => exact h.elim
    | cons d ds => exact (unflat_cons h.1 ds _).trans (congrArg _ (ih ds h.2))

theorem flatField_cons (f : Field) (fs : List Field) {y : Vec} {d : Nat} (h : y.length = d) (ds : List Nat) (t : Nat) (r : Vec) :
    flatField (f :: fs) (d :: ds) t (y ++ r) = f t y ++ flatField fs ds t r := by
  rw [flatField, unflat_cons h]
  rfl

theorem vadd_length (a b : Vec) : (vadd a b).length = min a.length b.length := List.length_zipWith

theorem vscale_length (k : Rat) (a : Vec) : (vscale k a).length = a.length := List.length_map _

theorem vadd_append (a b c d : Vec) (h : a.length = c.length) : vadd (a ++ b) (c ++ d) = vadd a c ++ vadd b d :=
  List.zipWith_append h

theorem vscale_append (k : Rat) (a b : Vec) : vscale k (a ++ b) = vscale k a ++ vscale k b := List.map_append

/-- blockwise operation on the copies -/
def blockwise (g : Field → Vec → Vec) (fs : List Field) (ys : List Vec) : List Vec := List.zipWith g fs ys

/-- the fields keep the size of their blocks -/
def Keeps : List Field → List Nat → Prop
  | [], [] => True
  | f :: fs, d :: ds => (∀ t (y : Vec), y.length = d → (f t y).length = d) ∧ Keeps fs ds
  | _, _ => False

/-- the one-step scheme `S` (field, step counter, state) advances a first copy `f`, which keeps its size `d`, and the
remaining copies independently of one another -/
def Splits (S : Field → Nat → Vec → Vec) : Prop :=
  ∀ (f : Field) (d : Nat), (∀ t (y : Vec), y.length = d → (f t y).length = d) → ∀ (i : Nat) (y : Vec), y.length = d →
    (S f i y).length = d ∧
    ∀ fs ds r, S (flatField (f :: fs) (d :: ds)) i (y ++ r) = S f i y ++ S (flatField fs ds) i r

theorem euler_splits (dt : Rat) (t0 : Nat) : Splits (fun f => eulerStepCode f dt t0) := by
  intro f d hf i y hy
  simp [eulerStepCode, flatField_cons, vadd_append, vscale_append, vadd_length, vscale_length, hf, hy]

theorem heun_splits (dt : Rat) (t0 : Nat) : Splits (fun f => heunStep f dt t0) := by
  intro f d hf i y hy
  simp [heunStep, flatField_cons, vadd_append, vscale_append, vadd_length, vscale_length, hf, hy]

theorem Splits.iterate {S : Field → Nat → Vec → Vec} (hS : Splits S) (k : Nat) : Splits (fun f i => iter (S f) i k) := by
  intro f d hf i y hy
  induction k generalizing i y with
  | zero => exact ⟨hy, fun _ _ _ => rfl⟩
  | succ k ih =>
    have h := hS f d hf i y hy
    have ih := ih (i + 1) (S f i y) h.1
    exact ⟨ih.1, fun fs ds r => (congrArg (iter _ (i + 1) k) (h.2 fs ds r)).trans (ih.2 fs ds _)⟩

/-- a scheme that splits acts on the combined network as it does on every copy on its own, and keeps the block sizes -/
theorem Splits.blocks {S : Field → Nat → Vec → Vec} (hS : Splits S) (i : Nat) (fs : List Field) (dims : List Nat) (ys : List Vec)
    (hk : Keeps fs dims) (hy : Sized ys dims) :
    S (flatField fs dims) i (flat ys) = flat (blockwise (fun f y => S f i y) fs ys)
    ∧ Sized (blockwise (fun f y => S f i y) fs ys) dims := by
  induction fs generalizing dims ys with
  | nil =>
    cases dims with
    | cons => exact hk.elim
    | nil =>
      cases ys with
      | cons => exact hy.elim
      -- no copies: `flatField [] []` keeps size 0, so the state stays `[]`
      | nil => exact ⟨List.eq_nil_of_length_eq_zero (hS _ 0 (fun _ _ _ => rfl) i [] rfl).1, trivial⟩
  | cons f fs ih =>
    cases dims with
    | nil => exact hk.elim
    | cons d ds =>
      cases ys with
      | nil => exact hy.elim
      | cons y ys =>
        have h := hS f d hk.1 i y hy.1
        have ih := ih ds ys hk.2 hy.2
        exact ⟨(h.2 fs ds (flat ys)).trans (congrArg _ ih.1), h.1, ih.2⟩

/-- **one Euler step of the combined network = one Euler step of every copy on its own** -/
theorem C17_euler_blocks (fs : List Field) (dims : List Nat) (hk : Keeps fs dims) (dt : Rat) (t0 i : Nat) (ys : List Vec)
    (hy : Sized ys dims) (hl : fs.length = ys.length) :
    eulerStepCode (flatField fs dims) dt t0 i (flat ys) = flat (blockwise (fun f y => eulerStepCode f dt t0 i y) fs ys)
    ∧ Sized (blockwise (fun f y => eulerStepCode f dt t0 i y) fs ys) dims :=
  (euler_splits dt t0).blocks i fs dims ys hk hy

theorem zipWith_blockwise_eq {g h : Field → Vec → Vec} (fs : List Field) (ys : List Vec) (hgh : ∀ f y, g f y = h f y) :
    blockwise g fs ys = blockwise h fs ys := by
  rw [funext fun f => funext (hgh f)]

/-- **one Heun step of the combined network = one Heun step of every copy on its own** -/
theorem C17_heun_blocks (fs : List Field) (dims : List Nat) (hk : Keeps fs dims) (dt : Rat) (t0 i : Nat) (ys : List Vec)
    (hy : Sized ys dims) (hl : fs.length = ys.length) :
    heunStep (flatField fs dims) dt t0 i (flat ys) = flat (blockwise (fun f y => heunStep f dt t0 i y) fs ys) :=
  ((heun_splits dt t0).blocks i fs dims ys hk hy).1

/-- `k` Euler steps -/
theorem C17_iter_blocks (fs : List Field) (dims : List Nat) (hk : Keeps fs dims) (dt : Rat) (t0 : Nat) (k i : Nat) (ys : List Vec)
    (hy : Sized ys dims) (hl : fs.length = ys.length) :
    iter (eulerStepCode (flatField fs dims) dt t0) i k (flat ys)
      = flat (blockwise (fun f y => iter (eulerStepCode f dt t0) i k y) fs ys) :=
  (((euler_splits dt t0).iterate k).blocks i fs dims ys hk hy).1

/-- `k` Heun steps of the combined network = `k` Heun steps of every copy on its own -/
theorem C17_iter_heun_blocks (fs : List Field) (dims : List Nat) (hk : Keeps fs dims) (dt : Rat) (t0 : Nat) (k i : Nat) (ys : List Vec)
    (hy : Sized ys dims) (hl : fs.length = ys.length) :
    iter (heunStep (flatField fs dims) dt t0) i k (flat ys)
      = flat (blockwise (fun f y => iter (heunStep f dt t0) i k y) fs ys) :=
  (((heun_splits dt t0).iterate k).blocks i fs dims ys hk hy).1

/-! ## non-vacuity -/

example : meshRows [[1, 2, 3], [10, 20]] = [[1, 10], [2, 10], [3, 10], [1, 20], [2, 20], [3, 20]] := by decide +kernel
example : linearize [[1, 2], [5, 6]] false = some [[1, 5], [2, 6]] := by decide +kernel
example : linearize [[1, 2], [5]] false = none := by decide +kernel
example : meshRows [[1, 2], [10, 20], [7, 8]] =
    [[1, 10, 7], [1, 10, 8], [2, 10, 7], [2, 10, 8], [1, 20, 7], [1, 20, 8], [2, 20, 7], [2, 20, 8]] := by decide +kernel

end PyRates.Sweep
