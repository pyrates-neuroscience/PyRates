import PyRatesModel.Generated.Tables
import PyRatesModel.Auto.Slots
/-!
# C18 — auto-07p export addresses every parameter and state consistently

Model of `FortranBackend._auto_param_indices` (fortran_backend.py 998-1009) for the blocked range read from the source
(`Tables.autoBlockedLo/Hi`, the class attribute `_AUTO_BLOCKED_PAR_RANGE`).  All emitted texts (parnames, STPNT, the call that forwards
PAR slots, DFDP columns) are produced by zipping the *same* index list with the same parameter list, so consistency reduces to
properties of that list, proved here for every number of parameters.  The theorems are stated for the literal range (10, 15);
`C18_tables` says that this is the range the source has now.
-/
namespace PyRates.Auto

/-- the loop as a map: if `g j` is the increment before parameter `j` and `f j` its slot, `slotsFrom` lists `f` -/
theorem slotsFrom_eq_map (lo hi : Nat) (f g : Nat → Nat) (h : ∀ j, stepSlot lo hi (g j) j = (f j, g (j + 1))) (n i : Nat) :
    slotsFrom lo hi n i (g i) = (List.range' i n).map f := by
  induction n generalizing i with
  | zero => rfl
  | succ n ih => rw [slotsFrom, h, ih, List.range'_succ, List.map_cons]

/-- **Closed form, for every number of parameters** (blocked range (10, 15)). -/
theorem slots_closed (n : Nat) : slots 10 15 n = (List.range n).map slotClosed := by
  rw [List.range_eq_range']
  -- the increment is 1 up to parameter 9, which hits the blocked range, and 6 from then on
  refine slotsFrom_eq_map 10 15 slotClosed (fun j => if j ≤ 9 then 1 else 6) (fun j => ?_) n 0
  rcases Nat.lt_trichotomy j 9 with h | rfl | h
  · rw [if_pos (Nat.le_of_lt h), if_pos (Nat.succ_le_of_lt h), slotClosed, if_pos h]
    exact if_neg (by omega)
  · rfl
  · rw [if_neg (Nat.not_le_of_gt h), if_neg (by omega), slotClosed, if_neg (Nat.lt_asymm h)]
    exact if_neg (by omega)

theorem slotClosed_strictMono (a b : Nat) (h : a < b) : slotClosed a < slotClosed b := by
  unfold slotClosed
  split <;> split <;> omega

/-- slots are pairwise distinct and increase with the declaration position, for every number of parameters -/
theorem C18_slots_strictly_increasing (n a b : Nat) (ha : a < b) (hb : b < n) :
    (slots 10 15 n)[a]? = some (slotClosed a) ∧ (slots 10 15 n)[b]? = some (slotClosed b) ∧ slotClosed a < slotClosed b := by
  rw [slots_closed, List.getElem?_map, List.getElem?_map, List.getElem?_range hb, List.getElem?_range (Nat.lt_trans ha hb)]
  exact ⟨rfl, rfl, slotClosed_strictMono a b ha⟩

/-- no parameter is ever placed in a slot auto-07p reserves (PAR(11)..PAR(14)), nor in slot 0 -/
theorem C18_slots_avoid_reserved (n : Nat) : ∀ s ∈ slots 10 15 n, 1 ≤ s ∧ ¬ (11 ≤ s ∧ s ≤ 14) := by
  rw [slots_closed]
  intro s hs
  obtain ⟨k, _, rfl⟩ := List.mem_map.mp hs
  unfold slotClosed
  split <;> omega

/-- NPAR = the largest slot = the slot of the last parameter -/
theorem C18_npar (n : Nat) (hn : 0 < n) : (slots 10 15 n).getLast? = some (slotClosed (n - 1)) := by
  rw [slots_closed, List.getLast?_map, List.getLast?_range, if_neg (Nat.ne_of_gt hn)]
  rfl

/-- the theorems above are about the range the source uses now -/
theorem C18_tables : Tables.autoBlockedLo = 10 ∧ Tables.autoBlockedHi = 15 ∧ Tables.autoTimeSlot = 14 := by decide

/-- Non-vacuity: twelve parameters cross the reserved range -/
example : slots 10 15 12 = [1, 2, 3, 4, 5, 6, 7, 8, 9, 15, 16, 17] := by decide +kernel

end PyRates.Auto
