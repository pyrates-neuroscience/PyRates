import PyRatesModel.Lemmas.Hist
import PyRatesModel.Generated.Tables
/-!
# C19 — DDEHistory returns the piecewise-linear interpolant of what it was given

Model: `PyRatesModel/Hist/DDEHistory.lean`; the buffer operations row by row are in `Lemmas/Hist.lean`.
All statements hold for histories of any length, any capacity and any growth factor ≥ 2.
-/
namespace PyRates.Hist

theorem C19_init_wf (y0 : Vec) (t0 : Rat) (m : Option Nat) (c : Nat) :
    (Hist.init y0 t0 m c).WF := by
  cases m <;>
    exact ⟨rfl, Nat.le_refl 1, Nat.succ_le_succ (Nat.zero_le _), fun i hi => ⟨y0, by rw [Nat.lt_one_iff.mp hi]; rfl⟩⟩

theorem C19_init_abs (y0 : Vec) (t0 : Rat) (m : Option Nat) (c : Nat) :
    (Hist.init y0 t0 m c).abs = [(t0, some y0)] := by
  cases m <;> simp [Hist.init, Hist.abs]

/-- `_grow` keeps every record (records survive buffer growth). -/
theorem C19_grow_abs (h : Hist) (gf : Nat) (hle : h.n ≤ h.rows.length) : (h.grow gf).abs = h.abs := by
  simp only [Hist.grow, Hist.abs]
  rw [List.take_append_of_le_length (by simp [List.length_take]; omega), List.take_take]
  simp

theorem writeRow_abs_wf (h : Hist) (t : Rat) (y : Vec) (hw : h.WF) (hcap : h.n < h.rows.length) :
    (h.writeRow t y).abs = h.abs ++ [(t, some y)] ∧ (h.writeRow t y).WF := by
  obtain ⟨hlen, h1, hle, hrows⟩ := hw
  refine ⟨?_, ?_, ?_, ?_, fun i hi => ?_⟩
  · -- the first `n + 1` rows after the write are the first `n` rows followed by the new one
    simp only [Hist.abs, Hist.writeRow]
    rw [List.take_succ_eq_append_getElem (by simpa using hcap), List.take_set_of_le (Nat.le_refl _),
      List.getElem_set_self, List.zip_append (by simp [hlen, hle])]
    rfl
  · simp [Hist.writeRow, hlen]
  · exact Nat.le_succ_of_le h1
  · simpa [Hist.writeRow] using Nat.succ_le_of_lt hcap
  · rw [writeRow_rows h t y i hcap]
    split
    · exact ⟨y, rfl⟩
    · exact hrows i (by have : i < h.n + 1 := hi; omega)

theorem grow_wf (h : Hist) (gf : Nat) (hw : h.WF) (hg : 2 ≤ gf) :
    (h.grow gf).WF ∧ (h.grow gf).n < (h.grow gf).rows.length := by
  obtain ⟨hlen, h1, hle, hrows⟩ := hw
  have hmul : h.rows.length * 2 ≤ h.rows.length * gf := Nat.mul_le_mul_left _ hg
  have hl : (h.grow gf).rows.length = h.rows.length * gf := by
    simp only [Hist.grow, List.length_append, List.length_take, List.length_replicate, Nat.min_eq_left hle]
    omega
  have hn : (h.grow gf).n = h.n := rfl
  refine ⟨⟨hlen, h1, by omega, fun i (hi : i < h.n) => ?_⟩, by omega⟩
  rw [grow_rows h gf i hle, if_pos hi]
  exact hrows i hi

/-- A successful `update` appends exactly the record `(t, y)`; nothing recorded before changes. -/
theorem C19_update_abs (h h' : Hist) (t : Rat) (y : Vec) (gf : Nat) (hg : 2 ≤ gf) (hw : h.WF)
    (hu : h.update t y gf = .ok h') : h'.abs = h.abs ++ [(t, some y)] ∧ h'.WF := by
  rcases update_cases h h' t y gf hu with ⟨hcap, rfl⟩ | ⟨_, _, rfl⟩
  · exact writeRow_abs_wf h t y hw hcap
  · obtain ⟨hgw, hgc⟩ := grow_wf h gf hw hg
    rw [← C19_grow_abs h gf hw.2.2.1]
    exact writeRow_abs_wf (h.grow gf) t y hgw hgc

/-- A bounded history refuses updates beyond its capacity instead of overwriting. -/
theorem C19_update_full (h : Hist) (t : Rat) (y : Vec) (gf : Nat) (hb : h.growable = false)
    (hfull : h.rows.length ≤ h.n) : h.update t y gf = .error .full := by
  simp [Hist.update, hb, hfull]

/-- A growable history never refuses; a bounded one accepts while there is room. -/
theorem C19_update_ok (h : Hist) (t : Rat) (y : Vec) (gf : Nat)
    (hroom : h.growable = true ∨ h.n < h.rows.length) : ∃ h', h.update t y gf = .ok h' := by
  unfold Hist.update
  split
  · rcases hroom with hg | hr
    · simp [hg]
    · omega
  · exact ⟨_, rfl⟩

/-- run a whole sequence of updates -/
def Hist.updates (h : Hist) (gf : Nat) : List (Rat × Vec) → Except Err Hist
  | [] => .ok h
  | (t, y) :: rest => match h.update t y gf with
    | .ok h' => h'.updates gf rest
    | .error e => .error e

/-- For every sequence of updates of any length (across any number of growth events) a growable
history holds exactly the initial record followed by the updates, in order. -/
theorem C19_updates_abs (h : Hist) (gf : Nat) (hg : 2 ≤ gf) (us : List (Rat × Vec)) (hw : h.WF)
    (hgr : h.growable = true) :
    ∃ h', h.updates gf us = .ok h' ∧ h'.abs = h.abs ++ us.map (fun u => (u.1, some u.2)) ∧ h'.WF
      ∧ h'.growable = true := by
  induction us generalizing h with
  | nil => exact ⟨h, rfl, by simp, hw, hgr⟩
  | cons u rest ih =>
    obtain ⟨t, y⟩ := u
    obtain ⟨h1, hu⟩ := C19_update_ok h t y gf (Or.inl hgr)
    obtain ⟨habs, hw1⟩ := C19_update_abs h h1 t y gf hg hw hu
    have hgr1 : h1.growable = true := by
      rcases update_cases h h1 t y gf hu with ⟨_, rfl⟩ | ⟨_, _, rfl⟩ <;> exact hgr
    obtain ⟨h2, hr, ha2, hw2, hg2⟩ := ih h1 hw1 hgr1
    refine ⟨h2, by simp [Hist.updates, hu, hr], ?_, hw2, hg2⟩
    rw [ha2, habs]; simp

/-! ## Queries -/

/-- every written row has dimension `d` (numpy enforces one row shape) -/
def Hist.Dim (h : Hist) (d : Nat) : Prop := ∀ (i : Nat) (v : Vec), h.rows[i]? = some (some v) → v.length = d

/-- the linear interpolant between two records -/
def lerp (t0 t1 t : Rat) (y0 y1 : Vec) : Vec := vadd y0 (vscale ((t - t0) / (t1 - t0)) (vsub y1 y0))

theorem ts_ne_nil (h : Hist) (hw : h.WF) : h.ts ≠ [] := by
  intro he; have := hw.1; have := hw.2.1; simp [he] at *; omega

/-- A query at or before the initial time returns the initial record. -/
theorem C19_query_before (h : Hist) (hw : h.WF) (t : Rat) (ht : t ≤ h.ts.head (ts_ne_nil h hw)) :
    h.query t = h.row 0 := by
  have hne := ts_ne_nil h hw
  unfold Hist.query
  rw [List.head?_eq_some_head hne, List.getLast?_eq_some_getLast hne]
  simp [ht]

/-- A query at or after the last recorded time returns the last record. -/
theorem C19_query_after (h : Hist) (hw : h.WF) (hs : StrictSorted h.ts) (t : Rat)
    (ht : h.ts.getLast (ts_ne_nil h hw) ≤ t) : h.query t = h.row (h.n - 1) := by
  have hne := ts_ne_nil h hw
  unfold Hist.query
  rw [List.head?_eq_some_head hne, List.getLast?_eq_some_getLast hne]
  simp only
  split
  · rename_i hle
    -- last ≤ t ≤ first: in a strictly increasing list that leaves a single record
    have : ¬ 0 < h.ts.length - 1 := fun hpos => by
      have hlt := sorted_get_lt h.ts hs 0 (h.ts.length - 1) hpos (by omega)
      rw [List.getLast_eq_getElem] at ht
      rw [List.head_eq_getElem] at hle
      exact Rat.lt_irrefl (Std.lt_of_lt_of_le hlt (Rat.le_trans ht hle))
    rw [show h.n - 1 = 0 by rw [← hw.1]; omega]
  · rfl

/-- Strictly between two neighbouring records the query is their linear interpolant. -/
theorem C19_query_between (h : Hist) (hw : h.WF) (hs : StrictSorted h.ts) (t : Rat) (i : Nat)
    (hi : i + 1 < h.ts.length) (h1 : h.ts[i]'(by omega) ≤ t) (h2 : t < h.ts[i+1])
    (hfirst : h.ts.head (ts_ne_nil h hw) < t) :
    h.query t = (do let y0 ← h.row i; let y1 ← h.row (i+1); pure (lerp (h.ts[i]'(by omega)) h.ts[i+1] t y0 y1)) := by
  have hne := ts_ne_nil h hw
  have hlast : t < h.ts.getLast hne := by
    rw [List.getLast_eq_getElem]
    by_cases he : i + 1 = h.ts.length - 1
    · simpa [he] using h2
    · exact Std.lt_trans h2 (sorted_get_lt h.ts hs (i+1) (h.ts.length - 1) (by omega) (by omega))
  have hb := bisect_spec h.ts t i hs hi h1 h2
  unfold Hist.query
  rw [List.head?_eq_some_head hne, List.getLast?_eq_some_getLast hne]
  simp only [Rat.not_le.mpr hfirst, ge_iff_le, Rat.not_le.mpr hlast, if_false, hb, Nat.add_sub_cancel]
  rw [List.getElem?_eq_getElem (by omega), List.getElem?_eq_getElem hi]
  rfl

theorem lerp_left (t0 t1 : Rat) (y0 y1 : Vec) (hd : y0.length = y1.length) : lerp t0 t1 t0 y0 y1 = y0 := by
  unfold lerp vadd vscale vsub
  induction y0 generalizing y1 with
  | nil => simp
  | cons a r ih =>
    cases y1 with
    | nil => simp at hd
    | cons b r1 =>
      simp only [List.zipWith_cons_cons, List.map_cons, List.cons.injEq]
      refine ⟨by grind, ?_⟩
      exact ih r1 (by simpa using hd)

/-- A query exactly at a recorded time returns exactly that record. -/
theorem C19_query_at_record (h : Hist) (hw : h.WF) (hs : StrictSorted h.ts) (d : Nat) (hd : h.Dim d)
    (i : Nat) (hi : i < h.ts.length) : h.query h.ts[i] = h.row i := by
  have hne := ts_ne_nil h hw
  by_cases h0 : i = 0
  · subst h0
    exact C19_query_before h hw _ (by rw [List.head_eq_getElem]; exact Rat.le_refl)
  by_cases hl : i = h.ts.length - 1
  · subst hl
    rw [C19_query_after h hw hs _ (by rw [List.getLast_eq_getElem]; exact Rat.le_refl), hw.1]
  · have hi1 : i + 1 < h.ts.length := by omega
    have hlen := hw.1
    rw [C19_query_between h hw hs h.ts[i] i hi1 Rat.le_refl (sorted_get_lt h.ts hs i (i+1) (Nat.lt_succ_self i) hi1)
      (by rw [List.head_eq_getElem]; exact sorted_get_lt h.ts hs 0 i (by omega) hi)]
    -- both rows are written and have the same size, so the interpolant at its left end is the left row
    obtain ⟨v0, hv0⟩ := hw.2.2.2 i (by omega)
    obtain ⟨v1, hv1⟩ := hw.2.2.2 (i+1) (by omega)
    simp only [Hist.row, hv0, hv1]
    exact congrArg Except.ok (lerp_left _ _ _ _ ((hd i v0 hv0).trans (hd (i+1) v1 hv1).symm))

def exEq : Except Err Vec → Except Err Vec → Bool
  | .ok a, .ok b => a == b
  | .error a, .error b => a == b
  | _, _ => false

/-! ## Tie to the constants of the current source (regenerated table) -/

/-- the growth factor and initial capacity found in the source satisfy what the theorems above need -/
theorem C19_tables_ok : 2 ≤ Tables.histGrowFactor ∧ 1 ≤ Tables.histInitialCapacity := by decide

/-- `C19_updates_abs` for the history as the code constructs it (`max_steps=None`, the source's constants). -/
theorem C19_impl_updates_abs (y0 : Vec) (t0 : Rat) (us : List (Rat × Vec)) :
    ∃ h', (Hist.init y0 t0 none Tables.histInitialCapacity).updates Tables.histGrowFactor us = .ok h'
      ∧ h'.abs = (t0, some y0) :: us.map (fun u => (u.1, some u.2)) ∧ h'.WF := by
  obtain ⟨h', h1, h2, h3, _⟩ := C19_updates_abs (Hist.init y0 t0 none Tables.histInitialCapacity)
    Tables.histGrowFactor C19_tables_ok.1 us (C19_init_wf _ _ _ _) rfl
  exact ⟨h', h1, by rw [h2, C19_init_abs]; rfl, h3⟩

def demoHist : Except Err Hist :=
  (Hist.init [0, 10] 0 none 2).updates 2 [(1, [2, 20]), (2, [6, 0]), (4, [8, 8])]

/-- Non-vacuity: a concrete history (initial record + 3 updates through a growth event with
capacity 2) holds its four records, has grown to capacity 4, and answers queries with the interpolant. -/
example : demoHist.toOption.map (·.abs)
    = some [(0, some [0,10]), (1, some [2,20]), (2, some [6,0]), (4, some [8,8])] := by decide +kernel
example : demoHist.toOption.map (·.rows.length) = some 4 := by decide +kernel
example : demoHist.toOption.map (fun h => exEq (h.query 3) (.ok [7, 4]) && exEq (h.query (3/2)) (.ok [4, 10])
    && exEq (h.query (-1)) (.ok [0, 10]) && exEq (h.query 9) (.ok [8, 8]) && exEq (h.query 2) (.ok [6, 0]))
    = some true := by decide +kernel

/-- Non-vacuity for the bounded case: capacity 2 accepts one update and refuses the second. -/
example : ((Hist.init [1] 0 (some 2)).update 1 [5]).toOption.map (·.abs)
    = some [(0, some [1]), (1, some [5])] := by decide +kernel
example : ((Hist.init [1] 0 (some 2)).update 1 [5]).toOption.map (fun h1 => (h1.update 2 [7]).toOption.isNone)
    = some true := by decide +kernel

end PyRates.Hist
