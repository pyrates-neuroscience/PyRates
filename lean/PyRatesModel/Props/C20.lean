import PyRatesModel.Guard.Model
/-!
# C20 — unsupported requests fail loudly

The finite matrix backend × solver is decided over the tables regenerated from the source on every run; the ring-buffer
requirement of a network is proved for every list of connections (`ringFlag`, order independence, given that the flag is sticky).
-/
namespace PyRates.Guard
open PyRates.Tables

/-- **Every solver outside a backend's SUPPORTED_SOLVERS raises** (for every backend class whose dispatch is modelled and every solver
name that any backend knows, plus some that none knows). -/
theorem C20_unsupported_solver_raises :
    ∀ b ∈ modelled, ∀ s ∈ solverUniverse, b.supported.contains s = false → solveOutcome b s = .raise := by decide +kernel

/-- **Every supported solver name reaches a method that implements that very solver** — no name in a SUPPORTED_SOLVERS tuple falls through
to another integrator. -/
theorem C20_supported_solver_runs_named :
    ∀ b ∈ modelled, ∀ s ∈ b.supported, solveOutcome b s = .runs s := by decide +kernel

/-- the feature guards are consistent with the flags: a ring-buffer delay under a fixed-step solver on a backend without
SUPPORTS_EDGE_DELAY_BUFFER must raise; likewise sparse Jacobians and vectorization on the listed backends -/
theorem C20_feature_guards :
    ∀ b ∈ backends, ∀ s ∈ ["euler", "heun"], b.edgeDelayBuffer = false →
      mustRaise { backend := b.name, solver := s, vectorize := false, delay := .discrete, sparseJacobian := false } = true := by decide +kernel

theorem C20_vectorize_guard :
    ∀ n ∈ vectorizeForbiddenBackends, ∀ s ∈ solverUniverse,
      mustRaise { backend := n, solver := s, vectorize := true, delay := .none, sparseJacobian := false } = true := by decide +kernel

/-! ### the ring-buffer requirement of a network with any number of connections -/

theorem ringFlag_sticky (f : Bool) (cs : List ConnKind) : ringFlag true f cs = (f || cs.any (· == .ring)) := by
  induction cs generalizing f with
  | nil => simp [ringFlag]
  | cons c cs ih => simp [ringFlag, ih, Bool.or_assoc]

/-- the flag found in the current source is the sticky one -/
theorem C20_flag_sticky : ringFlagSticky = true := by decide

/-- **Order independence**: the requirement recorded for a network does not depend on the order in which its connections are declared
or processed. -/
theorem C20_ring_flag_order (cs cs' : List ConnKind) (h : cs.Perm cs') : ringFlag ringFlagSticky false cs = ringFlag ringFlagSticky false cs' := by
  rw [C20_flag_sticky, ringFlag_sticky, ringFlag_sticky, h.any_eq]

/-- **Every network with a ring-buffer connection is refused** by every backend without in-place buffers under a fixed-step solver — for any
number of further connections of any kind, before or after it. -/
theorem C20_ring_anywhere_raises (b : BackendT) (s : String) (hs : fixedStep s = true) (hb : b.edgeDelayBuffer = false)
    (cs : List ConnKind) (h : ConnKind.ring ∈ cs) : mustRaiseConns b s cs = true := by
  have hr : cs.any (· == ConnKind.ring) = true := List.any_eq_true.mpr ⟨.ring, h, rfl⟩
  rw [mustRaiseConns, C20_flag_sticky, ringFlag_sticky, hs, hb, hr]
  rfl

/-- and a network without one is not refused on these grounds -/
theorem C20_no_ring_not_raised (b : BackendT) (s : String) (cs : List ConnKind) (h : ConnKind.ring ∉ cs) : mustRaiseConns b s cs = false := by
  have hr : cs.any (· == ConnKind.ring) = false := List.any_eq_false.mpr fun x hx hr => h (beq_iff_eq.mp hr ▸ hx)
  rw [mustRaiseConns, C20_flag_sticky, ringFlag_sticky, hr]
  rfl

/-- why the flag has to be sticky: with "the last delayed connection wins" a ring buffer declared before a cascade is forgotten -/
theorem C20_ring_flag_last_wins_counterexample :
    ringFlag false false [.ring, .cascade] = false ∧ ringFlag true false [.ring, .cascade] = true
      ∧ ringFlag false false [.cascade, .ring] = true := by decide

/-- Non-vacuity: the tables are non-trivial (at least four backends, one of which lacks the ring buffer and one solver that not all support) -/
example : 4 ≤ modelled.length ∧ (backends.any (fun b => !b.edgeDelayBuffer)) = true
    ∧ (modelled.any (fun b => !(b.supported.contains "heun"))) = true := by decide +kernel

end PyRates.Guard
